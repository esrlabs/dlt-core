/-
  C07 — the blocking reader equals slice parsing for every fragmentation of the source.

  Model: `readAll` (Model/Reader.lean): `next_message_slice` / `read_message` over a
  `BufReader` whose source fragments and interrupts its reads according to an arbitrary
  finite schedule.  Spec: `Spec.readStream` (Spec/Reader.lean): cut the bytes at the declared
  lengths and parse each piece; a function of the bytes alone.

  Modelled, not verified: `std::io::BufReader` and `Read::read_exact` are represented by the
  abstract source and the loop of Model/Reader.lean; the real ones are exercised by the
  correspondence run through a `Read` implementation driven by the schedule of the request.
-/
import DltVerif.Lemmas.Reader
import DltVerif.Lemmas.ParserImage

namespace Dlt

/-- `read_exact` meets its contract for every schedule of short and interrupted reads -/
theorem C07_readExact : ExactContract readExact := readExact_contract

/-- for every schedule, storage mode, filter and byte stream the blocking reader delivers
    exactly the Spec's cut-and-parse sequence -/
theorem C07_refines (sched : List Step) (w : Bool) (f : Option ProcessedFilter) (bs : Bytes) :
    readAll sched w f bs = Spec.readStream w f bs :=
  readAllWith_refines _ readExact_contract w f _ _ (Nat.lt_succ_self _)

/-- "no byte stream whatsoever, including one that declares a length smaller than its own
    header, makes the reader panic": the panic outcome is never delivered, for any schedule -/
theorem C07_nopanic (sched : List Step) (w : Bool) (f : Option ProcessedFilter) (bs : Bytes) :
    Delivered.error .panic ∉ readAll sched w f bs := by
  rw [C07_refines]
  unfold Spec.readStream
  intro h
  obtain ⟨p, _, hp⟩ := List.mem_map.1 h
  cases p with
  | msg b =>
    unfold Spec.deliver at hp
    simp only at hp
    cases hd : dltMessage b f w with
    | ok r => rw [hd] at hp; cases hp
    | error e =>
      rw [hd] at hp
      cases hp
      exact toResult_ne_panic (dltMessageIntern_ne_panic b f w) hd
  | badLen => cases hp
  | truncated => cases hp

/-- in particular the result does not depend on the fragmentation at all -/
theorem C07_schedule_independent (s1 s2 : List Step) (w : Bool) (f : Option ProcessedFilter)
    (bs : Bytes) : readAll s1 w f bs = readAll s2 w f bs := by
  rw [C07_refines, C07_refines]

/-- every message completely contained in the stream before a truncation point is delivered,
    and a truncated tail yields end-of-stream or one error, never a message: for well-formed
    messages `ms` (all with / all without storage header) and a strict prefix of a further
    well-formed message -/
theorem C07_complete_prefix (w : Bool) (ms : List Message) (m : Message) (k : Nat)
    (hms : ∀ x ∈ ms, x.wf = true ∧ x.storageHeader.isSome = w)
    (hm : m.wf = true ∧ m.storageHeader.isSome = w) (hk : k < m.asBytes.length) :
    ∃ tail, (tail = [] ∨ tail = [Delivered.error .unrecoverable]) ∧
      Spec.readStream w none ((ms.map Message.asBytes).flatten ++ m.asBytes.take k)
        = ms.map (fun x => Delivered.parsed (.item x)) ++ tail := by
  rw [readStream_asBytes_append w ms _ hms, Spec.readStream]
  rcases cut_strict_prefix w m.asBytes k (Message.wf_piece_of m w hm.1 hm.2) hk with hc | hc <;> rw [hc]
  · exact ⟨[], .inl rfl, rfl⟩
  · exact ⟨[.error .unrecoverable], .inr rfl, rfl⟩

end Dlt
