/-
  C19 — fixed-size NUL-terminated fields consume their size and yield the clean prefix.

  Model: `Dlt.zts` (= `dlt_zero_terminated_string_intern`, Model/Nom.lean) built from
  nom's streaming `take_while_m_n` and `take`, and `Utf8.validUpTo` (Model/Utf8.lean).
-/
import DltVerif.Lemmas.Zts
import DltVerif.Lemmas.Utf8Spec
import DltVerif.Spec.Codec

namespace Dlt

/-- with at least `n` bytes available the field consumes exactly `n` bytes and returns the
    longest valid-UTF-8 prefix of the bytes preceding the first NUL among those `n` -/
theorem C19_zts (n : Nat) (s : Bytes) (h : n ≤ s.length) :
    zts n s = .ok (Utf8.validPrefix ((s.take n).takeWhile (fun b => !isNul b))) (s.drop n) :=
  zts_ok n s h

/-- with fewer than `n` bytes it reports incomplete; a size hint is at least 1 and never
    larger than the shortfall -/
theorem C19_zts_short (n : Nat) (s : Bytes) (h : s.length < n) :
    ∃ hint, zts n s = .incomplete hint ∧ ∀ k, hint = some k → 1 ≤ k ∧ k ≤ n - s.length := by
  obtain ⟨k, hk, hb⟩ := zts_short_some n s h
  exact ⟨some k, hk, fun k' hk' => by cases hk'; exact hb⟩

/-- `validPrefix` is the longest valid-UTF-8 prefix: it is valid, it is a prefix, and no
    longer prefix is valid -/
theorem C19_utf8 (b : Bytes) :
    Utf8.valid (Utf8.validPrefix b) = true
    ∧ Utf8.validPrefix b <+: b
    ∧ ∀ k, k ≤ b.length → Utf8.valid (b.take k) = true → k ≤ (Utf8.validPrefix b).length :=
  ⟨Utf8.valid_validPrefix b, List.take_prefix _ _, Utf8.validPrefix_longest b⟩

/-- the field never panics (the `size - content.len()` subtraction cannot underflow) and
    never fails: it is `ok` or `incomplete` -/
theorem C19_zts_total (n : Nat) (s : Bytes) :
    (∃ v r, zts n s = .ok v r) ∨ (∃ hint, zts n s = .incomplete hint) := by
  rw [zts_eq]
  split
  · exact Or.inl ⟨_, _, rfl⟩
  · exact Or.inr ⟨_, rfl⟩

/-- the byte-range table the validator follows (Unicode table 3-7) accepts exactly the
    strings that are sequences of shortest-form encoded scalar values (RFC 3629, Spec/Zts.lean) -/
theorem C19_utf8_definition (bs : Bytes) : Utf8.valid bs = Spec.isUtf8 bs := (isUtf8_eq bs).symm

/-- the field parser is the Spec's field (Spec/Zts.lean, written from the property text with
    the definition-based UTF-8 check and the longest valid prefix found by search) -/
theorem C19_spec (n : Nat) (s : Bytes) :
    match Spec.ztsField n s with
    | .field text rest => zts n s = .ok text rest
    | .incomplete missing =>
      ∃ hint, zts n s = .incomplete hint ∧ ∀ k, hint = some k → 1 ≤ k ∧ k ≤ missing := by
  unfold Spec.ztsField
  by_cases h : n ≤ s.length
  · simp only [h, if_true]
    rw [zts_ok n s h, longestValid_self]
    rfl
  · simp only [h, if_false]
    exact C19_zts_short n s (Nat.lt_of_not_le h)

/-- "the 4-byte ECU, application and context ids of a message obey the same rule": the text the
    reference decoder of C02 reads from a 4-byte id field (`Spec.fieldText`, to which the parser is
    tied for ALL byte strings by `C02_decode`: storage-header ECU id at offset 12, header ECU
    id, application and context id at the offsets the header-type byte implies) is the text of
    the Spec's fixed-size field of 4 bytes -/
theorem C19_ids (field : Bytes) (h : field.length = 4) :
    Spec.fieldText field = Spec.idText field := by
  unfold Spec.idText Spec.ztsField
  rw [if_pos (Nat.le_of_eq h.symm)]
  simp only
  rw [List.take_of_length_le (Nat.le_of_eq h), longestValid_self]
  rfl

-- non-vacuity: "AB\0C" + invalid byte, size 4, one byte left over
example : zts 4 [0x41#8, 0x42#8, 0#8, 0x43#8, 0xFF#8] = .ok [0x41#8, 0x42#8] [0xFF#8] := by
  rw [C19_zts 4 _ (by decide), ← longestValid_self]
  decide
-- an invalid UTF-8 tail is cut: "a" C3 (truncated 2-byte scalar)
example : Utf8.validPrefix [0x61#8, 0xC3#8] = [0x61#8] := by
  rw [← longestValid_self]
  decide

end Dlt
