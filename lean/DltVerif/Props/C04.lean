/-
  C04 — a successful parse consumes exactly the declared message and makes progress.

  Model: `dltMessage`, `dltConsumeMsg` (Model/Decode.lean).  Spec: `Spec.framing` /
  `Spec.storageFraming` (Spec/Layout.lean): where a message ends according to its own length
  field, computed from HTYP and LEN alone.
-/
import DltVerif.Lemmas.ParsedFraming

namespace Dlt

/-- C04 with the quantitative progress bound: at least 4 bytes are consumed -/
theorem consume_progress (bs : Bytes) (f : Option ProcessedFilter) (w : Bool) (res : ParsedMessage)
    (rest : Bytes) (h : dltMessageIntern bs f w = .ok res rest) :
    ∃ skip d,
      (if w then Spec.storageFraming bs = .complete skip d
       else (skip = 0 ∧ Spec.framing bs = .complete d))
      ∧ rest = bs.drop (skip + (if w then 16 else 0) + d)
      ∧ rest.length + 4 ≤ bs.length
      ∧ res ≠ .invalid
      ∧ ∀ n, res = .filteredOut n →
          n = d - Spec.allHeadersLen ((bs.drop (skip + (if w then 16 else 0))).headD 0#8) := by
  cases w with
  | false =>
    obtain ⟨d, hf, hr, hne, hfo, _⟩ := framing_of_ok h
    obtain ⟨_, hdl, _⟩ := framing_complete_le bs d hf
    refine ⟨0, d, ⟨rfl, hf⟩, ?_, by rw [hr, List.length_drop]; omega, hne, ?_⟩
    · rw [hr, if_neg (by decide), Nat.zero_add]
    · rw [if_neg (by decide)]
      exact hfo
  | true =>
    obtain ⟨skip, res', hs, hl, hi, rfl⟩ := storage_of_ok h
    obtain ⟨d, hf, hr, hne, hfo, _⟩ := framing_of_ok hi
    obtain ⟨_, hdl, _⟩ := framing_complete_le _ d hf
    rw [List.length_drop] at hdl
    exact ⟨skip, d, by rw [if_pos rfl, storageFraming_located bs skip hs hl, hf],
      by rw [hr, List.drop_drop, if_pos rfl],
      by rw [hr, List.length_drop, List.length_drop]; omega,
      ParsedMessage.withStorage_ne_invalid _ hne,
      fun n hn => hfo n (ParsedMessage.withStorage_eq_filteredOut hn)⟩

/-- Whenever the parser succeeds — message returned or filtered out — the Spec's framing is
    `complete`, the remainder starts exactly at the declared end (after the junk in front of
    the pattern and the 16-byte storage header), it is strictly shorter than the input, the
    result is never `Invalid`, and a filtered-out marker carries declared length minus
    header length. For every byte string, filter and storage mode. -/
theorem C04_consume (bs : Bytes) (f : Option ProcessedFilter) (w : Bool) (res : ParsedMessage)
    (rest : Bytes) (h : dltMessage bs f w = .ok (res, rest)) :
    ∃ skip d,
      (if w then Spec.storageFraming bs = .complete skip d
       else (skip = 0 ∧ Spec.framing bs = .complete d))
      ∧ rest = bs.drop (skip + (if w then 16 else 0) + d)
      ∧ rest.length < bs.length
      ∧ res ≠ .invalid
      ∧ ∀ n, res = .filteredOut n →
          n = d - Spec.allHeadersLen ((bs.drop (skip + (if w then 16 else 0))).headD 0#8) := by
  obtain ⟨skip, d, h1, h2, h3, h4, h5⟩ :=
    consume_progress bs f w res rest (PRes.toResult_eq_ok_iff.1 h)
  exact ⟨skip, d, h1, h2, by omega, h4, h5⟩

/-- the `ParsedMessage::Invalid` branch (which would return a different remainder) can never
    be taken: `dlt_standard_header` has already rejected such a length -/
theorem C04_invalid_unreachable (bs : Bytes) (f : Option ProcessedFilter) (w : Bool) (rest : Bytes) :
    dltMessage bs f w ≠ .ok (.invalid, rest) := by
  intro h
  obtain ⟨_, _, _, _, _, hne, _⟩ := C04_consume bs f w _ _ h
  exact hne rfl

/-- the presence of a filter never changes where the next message is looked for -/
theorem C04_filter_alignment (bs : Bytes) (f1 f2 : Option ProcessedFilter) (w : Bool)
    (r1 r2 : ParsedMessage) (rest1 rest2 : Bytes)
    (h1 : dltMessage bs f1 w = .ok (r1, rest1)) (h2 : dltMessage bs f2 w = .ok (r2, rest2)) :
    rest1 = rest2 := by
  obtain ⟨s1, d1, a1, b1, _⟩ := C04_consume bs f1 w r1 rest1 h1
  obtain ⟨s2, d2, a2, b2, _⟩ := C04_consume bs f2 w r2 rest2 h2
  cases w with
  | false =>
    rw [if_neg (by decide)] at a1 a2
    obtain ⟨rfl, a1⟩ := a1
    obtain ⟨rfl, a2⟩ := a2
    rw [a1] at a2
    injection a2 with hd
    rw [b1, b2, hd]
  | true =>
    rw [if_pos rfl] at a1 a2
    rw [a1] at a2
    injection a2 with hs hd
    rw [b1, b2, hs, hd]

/-- the skipper: a reported skip is 16 + declared length, the remainder starts there -/
theorem C04_skipper (bs : Bytes) (c : Nat) (rest : Bytes) (h : dltConsumeMsg bs = .ok (some c) rest) :
    bs.take 4 = DLT_PATTERN ∧
    ∃ d, Spec.framing (bs.drop 16) = .complete d ∧ c = 16 + d ∧ rest = bs.drop c ∧ 0 < c
      ∧ c ≤ bs.length ∧ rest.length < bs.length := by
  rcases (dltConsumeMsg_sat bs).of_ok h with ⟨_, hn, _⟩ | ⟨hp, h16, d, hf, hc, hr⟩
  · cases hn
  · injection hc with hc
    subst hc
    obtain ⟨_, hdl, _⟩ := framing_complete_le _ d hf
    rw [List.length_drop] at hdl
    rw [List.drop_drop] at hr
    refine ⟨hp, d, hf, rfl, hr, by omega, by omega, ?_⟩
    rw [hr, List.length_drop]
    omega

theorem C04_skipper_none (bs rest : Bytes) (h : dltConsumeMsg bs = .ok none rest) :
    bs = [] ∧ rest = [] := by
  rcases (dltConsumeMsg_sat bs).of_ok h with ⟨hb, _, hr⟩ | ⟨_, _, _, _, hc, _⟩
  · exact ⟨hb, hr⟩
  · cases hc

/-- repeated parsing of a buffer: defined by well-founded recursion on the length of what
    is left — the termination proof IS the progress statement of `C04_consume` -/
def parseAll (f : Option ProcessedFilter) (w : Bool) (bs : Bytes) : List ParsedMessage :=
  match h : dltMessage bs f w with
  | .ok (res, rest) => res :: parseAll f w rest
  | .error _ => []
termination_by bs.length
decreasing_by
  obtain ⟨_, _, _, _, hlt, _⟩ := C04_consume bs f w res rest h
  exact hlt

theorem parseAll_eq (f : Option ProcessedFilter) (w : Bool) (bs : Bytes) :
    parseAll f w bs =
      match dltMessage bs f w with
      | .ok (res, rest) => res :: parseAll f w rest
      | .error _ => [] := by
  rw [parseAll]
  split <;> rename_i hm <;> rw [hm]

/-- repeated parsing stays aligned: every element was parsed at a message boundary, i.e.
    the loop visits at most one message per 4 bytes -/
theorem C04_parseAll_length (f : Option ProcessedFilter) (w : Bool) (bs : Bytes) :
    4 * (parseAll f w bs).length ≤ bs.length := by
  fun_induction parseAll f w bs with
  | case1 bs res rest h ih =>
    obtain ⟨_, _, _, _, h3, _⟩ :=
      consume_progress bs f w res rest (PRes.toResult_eq_ok_iff.1 h)
    rw [List.length_cons]
    omega
  | case2 bs e h => exact Nat.zero_le _

end Dlt
