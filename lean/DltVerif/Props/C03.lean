/-
  C03 — no byte sequence can crash the slice parsers or the use of what they return.

  The model has an explicit `panic` outcome at every operation that can panic in Rust
  (checked subtractions `size - len`, `input.len() - i.len()`, the `u16` additions of
  `overall_length`, every slice of `construct_arguments`, `len as u16 + 1` in the writer);
  the theorems say those outcomes are unreachable, for all inputs.
  Fidelity caveat: which operations can panic was identified by hand; the correspondence run
  (crate under `catch_unwind` vs model) on the malformed streams is what checks that list.
-/
import DltVerif.Lemmas.ParserImage
import DltVerif.Props.C13

namespace Dlt

/-- the message parser: every storage mode, every filter, every byte string -/
theorem C03_message_nopanic (bs : Bytes) (f : Option ProcessedFilter) (w : Bool) :
    dltMessage bs f w ≠ .error .panic :=
  toResult_ne_panic (dltMessageIntern_ne_panic bs f w)

theorem C03_consume_nopanic (bs : Bytes) : dltConsumeMsg bs ≠ .panic :=
  (dltConsumeMsg_sat bs).ne_panic

theorem C03_skip_nopanic (bs : Bytes) : skipStorageHeader bs ≠ .panic :=
  (skipStorageHeader_sat bs).ne_panic

/-- fixed-size string extraction: `ok` or `incomplete`, never `panic` (nor an error) -/
theorem C03_zts_nopanic (n : Nat) (s : Bytes) : zts n s ≠ .panic :=
  (ParserImage.zts_sat n s).ne_panic

theorem C03_construct_nopanic (e : Endian) (types : List TypeInfo) (data : Bytes) :
    constructArguments e types data ≠ .panic := C13_nopanic e types data

/-- every returned message can be re-serialised and measured without panicking, and each of
    its arguments passes the validity check — whatever the input, storage mode and filter -/
theorem C03_reserialise (bs : Bytes) (f : Option ProcessedFilter) (w : Bool) (m : Message)
    (r : Bytes) (h : dltMessage bs f w = .ok (.item m, r)) :
    m.asBytesPanics = false
    ∧ (∀ args, m.payload = .verbose args → args.all Argument.valid = true
         ∧ args.all (fun a => !a.asBytesPanics) = true) :=
  parsed_usable bs f w m r (PRes.toResult_eq_ok_iff.1 h)

end Dlt
