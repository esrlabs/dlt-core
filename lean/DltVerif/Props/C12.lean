/-
  C12 — loading any FIBEX file ends with a model or a refusal, never a hang or a panic.

  Model: Model/Fibex.lean.  Every loop of the loader (`Reader::read_event`, `read_pdu`,
  `read_frame`, the per-file loop of `read_fibexes`) is a Lean function defined by
  well-founded recursion on the number of remaining XML events; the termination proofs
  (`readEvent_progress`, `readEvent_lt`, `readPdu_length`, `readFrame_length`) are the
  obligations a loop ignoring `Eof` cannot meet.  The only operation of the loader that can
  panic in Rust, the index in `attr_opt`, is modelled with an explicit `panic` outcome.
-/
import DltVerif.Lemmas.FibexAttrs

namespace Dlt
open Dlt.Fibex

/-- the index `attr_key[key_len - name_len - 1]` is always in bounds: the matcher has an answer
    (`keyMatches_eq`) -/
theorem attrOpt_ne_panic (name : Bytes) (attrs : List Attr) : attrOpt name attrs ≠ .panic := by
  induction attrs with
  | nil => simp [attrOpt]
  | cons a rest ih =>
    cases a with
    | err => simp [attrOpt]
    | ok key value =>
      unfold attrOpt
      rw [keyMatches_eq]
      cases Spec.namesAttr key name
      · simpa using ih
      · cases value <;> simp

theorem attrReq_ne_panic (name : Bytes) (attrs : List Attr) : attrReq name attrs ≠ .panic := by
  have := attrOpt_ne_panic name attrs
  unfold attrReq
  split <;> simp_all

/-- `Reader::read_event` never panics -/
theorem C12_readEvent_nopanic (st : RState) (evs : List XmlEv) :
    (readEvent st evs).1 ≠ .panic := by
  -- here and in the loops below: a branch that returns `panic` has a callee's `panic` among its hypotheses, a branch
  -- that returns a call has the induction hypothesis, the others return a constructor other than `panic`
  fun_induction readEvent st evs
  all_goals first
    | assumption
    | (intro h; cases h; done)
    | (intro _; exact attrReq_ne_panic _ _ ‹attrReq _ _ = Res.panic›)

/-- every `read_event` call either consumes at least one XML event or reports end of file
    (so a loader loop makes at most `events + 1` calls) -/
theorem C12_consumes (st : RState) (evs : List XmlEv) :
    (readEvent st evs).1 = .ok .eof ∨ (readEvent st evs).2.2.length < evs.length := by
  by_cases h : (readEvent st evs).1 = .ok .eof
  · exact Or.inl h
  · exact Or.inr (readEvent_lt (r := (readEvent st evs).1) (st' := (readEvent st evs).2.1)
      (evs' := (readEvent st evs).2.2) rfl h)

theorem readEvent_panic_absurd {st st' : RState} {evs evs' : List XmlEv}
    (h : readEvent st evs = (.panic, st', evs')) : False := by
  have := C12_readEvent_nopanic st evs
  rw [h] at this
  exact this rfl

theorem readPdu_ne_panic (st : RState) (evs : List XmlEv) (acc : List (Nat × Bytes)) :
    (readPdu st evs acc).1 ≠ .panic := by
  fun_induction readPdu st evs acc
  all_goals first
    | assumption
    | (intro h; cases h; done)
    | (intro _; exact readEvent_panic_absurd ‹readEvent _ _ = (Res.panic, _, _)›)

theorem readFrame_ne_panic (st : RState) (evs : List XmlEv) (acc : List (Nat × Bytes))
    (ext : FrameExt) : (readFrame st evs acc ext).1 ≠ .panic := by
  fun_induction readFrame st evs acc ext
  all_goals first
    | assumption
    | (intro h; cases h; done)
    | (intro _; exact readEvent_panic_absurd ‹readEvent _ _ = (Res.panic, _, _)›)

theorem readFile_ne_panic (st : RState) (evs : List XmlEv) (acc : Acc) :
    readFile st evs acc ≠ .panic := by
  fun_induction readFile st evs acc
  all_goals first
    | assumption
    | (intro h; cases h; done)
    | (intro _; exact readEvent_panic_absurd ‹readEvent _ _ = (Res.panic, _, _)›)
    | (intro _; exact readPdu_ne_panic _ _ _ (congrArg Prod.fst ‹readPdu _ _ _ = (Res.panic, _, _)›))
    | (intro _; exact readFrame_ne_panic _ _ _ _ (congrArg Prod.fst ‹readFrame _ _ _ _ = (Res.panic, _, _)›))

theorem readFiles_ne_panic (files : List (Option (List XmlEv))) (acc : Acc) :
    readFiles files acc ≠ .panic := by
  induction files generalizing acc with
  | nil => simp [readFiles]
  | cons f rest ih =>
    cases f with
    | none => simp [readFiles]
    | some evs =>
      unfold readFiles
      have := readFile_ne_panic {} evs acc
      split
      · exact ih _
      · simp
      · simp_all

/-- Loading terminates (the model is a total function) with a model or with nothing — for
    every list of files, every event list (valid, truncated anywhere, with elements or
    attributes removed, corrupted), and for files that cannot be opened. -/
theorem C12_total (files : List (Option (List XmlEv))) :
    gatherFibexData files = .ok none ∨ ∃ md, gatherFibexData files = .ok (some md) := by
  unfold gatherFibexData
  split
  · exact Or.inl rfl
  · have hp : readFibexes files ≠ .panic := by
      unfold readFibexes
      have := readFiles_ne_panic files {}
      split
      · simp
      · simp_all
      · dsimp only
        split <;> simp
    cases h : readFibexes files with
    | ok md => exact Or.inr ⟨md, rfl⟩
    | err => exact Or.inl rfl
    | panic => exact absurd h hp

/-- end of file inside a PDU element is an error (the loop does not go on) -/
theorem C12_eof_in_pdu (st : RState) (acc : List (Nat × Bytes)) :
    (readPdu st [] acc).1 = .err := by
  rw [readPdu_step, readEvent]

/-- end of file inside a FRAME element is an error -/
theorem C12_eof_in_frame (st : RState) (acc : List (Nat × Bytes)) (ext : FrameExt) :
    (readFrame st [] acc ext).1 = .err := by
  rw [readFrame_step, readEvent]

/-- a file that cannot be opened makes loading return nothing -/
theorem C12_missing_file (before after : List (Option (List XmlEv))) :
    gatherFibexData (before ++ none :: after) = .ok none := by
  have hfiles : ∀ acc, readFiles (before ++ none :: after) acc = .err := by
    induction before with
    | nil => intro acc; rfl
    | cons f rest ih =>
      intro acc
      cases f with
      | none => rfl
      | some evs =>
        have := readFile_ne_panic {} evs acc
        simp only [List.cons_append, readFiles]
        split <;> simp_all
  have hne : (before ++ none :: after).isEmpty = false := by cases before <;> rfl
  simp [gatherFibexData, hne, readFibexes, hfiles]

end Dlt
