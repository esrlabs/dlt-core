/-
  C02 — writer and parser agree with an independent reference codec of the DLT format.

  Model: `Message.asBytes` (Model/Encode.lean), `dltMessage` (Model/Decode.lean).
  Spec: Spec/Codec.lean — `Spec.layout` (the bytes of a message, by weights and digit sums)
  and `Spec.decode` (positions by offset from HTYP and LEN, headers by offset, arguments by a
  consumer of the declared payload slice), written from the AUTOSAR layout.
-/
import DltVerif.Lemmas.CodecMessage
import DltVerif.Lemmas.CodecEncode
import DltVerif.Props.C01
import DltVerif.Lemmas.Utf8Spec

namespace Dlt
open Dlt.Spec

/-- the parser's result as a verdict: a message with its consumed length, "incomplete", or
    rejection (both error classes) -/
def verdictOf (r : Except DltError (ParsedMessage × Bytes)) (n : Nat) : Verdict :=
  match r with
  | .ok (.item m, rest) => .item m (n - rest.length)
  | .ok (_, _) => .reject
  | .error (.incomplete _) => .incomplete
  | .error _ => .reject

/-- behind a storage header `so` that occupies the first `c` bytes of the buffer: for EVERY
    byte string `bs` that follows, the parser's verdict is the reference decoder's (message
    with every field and the consumed length, incomplete, reject) -/
theorem msgBody_verdict (so : Option StorageHeader) (bs : Bytes) (c : Nat) :
    verdictOf (msgBody so bs none).toResult (c + bs.length)
      = match Spec.framing bs with
        | .incomplete _ => .incomplete
        | .reject => .reject
        | .complete d => decodeComplete so (bs.take d) (c + d) := by
  have hc := msgBody_closed so bs none
  cases hf : Spec.framing bs with
  | incomplete b =>
    rw [hf] at hc
    obtain ⟨hint, hh, _⟩ := hc
    rw [hh]; rfl
  | reject =>
    rw [hf] at hc
    simp only [] at hc
    rw [hc]; rfl
  | complete d =>
    simp only []
    rw [decodeComplete_take bs d hf so (c + d)]
    have h := msgBody_complete so bs d hf
    obtain ⟨_, hdl, _⟩ := framing_complete_le bs d hf
    cases hb : bodyOf so bs d with
    | some m =>
      rw [hb] at h
      simp only [] at h
      rw [h]
      simp only [PRes.toResult, verdictOf, List.length_drop]
      congr 1
      rw [Nat.add_comm c, Nat.add_sub_sub_cancel hdl]
    | none =>
      rw [hb] at h
      rcases h with h | h <;> rw [h] <;> rfl

/-- without storage header: for EVERY byte string the parser's verdict is the reference
    decoder's verdict (message with every field and the consumed length, incomplete, reject) -/
theorem C02_decode_nostorage (bs : Bytes) :
    verdictOf (dltMessage bs none false) bs.length = Spec.decode false bs := by
  unfold Spec.decode dltMessage
  have h := msgBody_verdict none bs 0
  simp only [Nat.zero_add] at h
  rw [dltMessageIntern_false_eq, h]
  rfl

/-- with storage header: junk before the first pattern is skipped, the storage header is
    read, and the verdict is again the reference decoder's for EVERY byte string -/
theorem C02_decode_storage (bs : Bytes) :
    verdictOf (dltMessage bs none true) bs.length = Spec.decode true bs := by
  unfold Spec.decode dltMessage
  simp only [if_true]
  rcases dltMessageIntern_storage_cases bs none with ⟨hint, hi, hsf⟩ | ⟨skip, hs, hl, _, he⟩
  · rw [hi, hsf]; rfl
  · have h := msgBody_verdict (some (storageHeaderOf ((bs.drop skip).take 16)))
      (bs.drop (skip + 16)) (skip + 16)
    rw [List.length_drop, Nat.add_sub_of_le hl] at h
    rw [he, storageFraming_located bs skip hs hl, dltMessageIntern_false_eq,
      ← msgBody_some, h]
    cases Spec.framing (bs.drop (skip + 16)) <;> rfl

/-- C02 (decoding): for every byte string and both storage-header modes, the parser's
    verdict is the verdict of the independently written reference decoder -/
theorem C02_decode (w : Bool) (bs : Bytes) :
    verdictOf (dltMessage bs none w) bs.length = Spec.decode w bs := by
  cases w
  · exact C02_decode_nostorage bs
  · exact C02_decode_storage bs

/-- the type-info word: the crate's decoder is the decoder by weights on all 2^32 words, and
    it accepts exactly the words naming one supported kind with a supported width -/
theorem C02_typeinfo (w : BitVec 32) :
    TypeInfo.ofU32 w = tiDecode w.toNat ∧ (TypeInfo.ofU32 w).isSome = tiSupported w.toNat :=
  ⟨ofU32_eq_tiDecode w, ofU32_isSome w⟩

/-- C02 (encoding): the bytes the writer produces for every well-formed message are exactly
    the AUTOSAR layout as the reference encoder spells it out -/
theorem C02_encode (m : Message) (h : m.wf = true) : m.asBytes = Spec.layout m := by
  obtain ⟨hsh, hver, hid, hext, hehwf, hpc, hpl, htot⟩ := (Message.wf_iff m).1 h
  have hpay := layoutPayload_eq m.header.endianness m.payload m.extendedHeader hpc
  have hbody := Message.wf_body_length m h
  rw [Message.asBytes_eq, StandardHeader.asBytes_layout]
  unfold layout
  simp only [← hpay, layoutStorage_eq, layoutExtended_eq m.extendedHeader hehwf, (m.header.headerTypeByte_fields hver).2.2.2.2.2.2]
  -- the length field
  have hlen : 4 + (layoutOptional m.header).length + (ehBytes m.extendedHeader).length
      + (m.payload.asBytes m.header.endianness).length = m.header.overallLength := by
    rw [StandardHeader.asBytes_layout] at hbody
    simp only [List.length_append, List.length_cons, List.length_nil, bytesBE, List.length_reverse,
      length_bytesLE] at hbody
    unfold StandardHeader.overallLength asU16
    rw [Nat.mod_eq_of_lt (Nat.lt_succ_of_le htot)]
    omega
  rw [hlen]
  simp only [digitsLE_eq, bytesBE, List.append_assoc]

/-- the reference decoder inverts the reference encoder on well-formed messages (from
    C02_encode, C02_decode and the round trip C01): the two halves of the reference codec are
    consistent with each other, whatever follows the message -/
theorem C02_reference_roundtrip (m : Message) (h : m.wf = true) (sfx : Bytes) :
    Spec.decode m.storageHeader.isSome (Spec.layout m ++ sfx) = .item m (Spec.layout m).length := by
  rw [← C02_encode m h, ← C02_decode, (C01_roundtrip m h sfx).2]
  simp only [verdictOf, List.length_append, Nat.add_sub_cancel]

/-- the text of a field as the reference codec reads it is the longest prefix, of the bytes
    before the first NUL, that is valid UTF-8 in the sense of RFC 3629 (found by search) -/
theorem C02_text (b : Bytes) :
    Spec.fieldText b
      = Spec.longestValid (b.takeWhile fun x => x != 0#8) (b.takeWhile fun x => x != 0#8).length := by
  rw [longestValid_self]; rfl

/-- non-vacuity: the big-endian network-trace message of C01 is laid out as 41 bytes starting
    with the storage pattern and HTYP 0x3F -/
example : (Spec.layout exNetworkTrace).take 17
    = [0x44#8, 0x4C#8, 0x54#8, 0x01#8, 1#8, 0#8, 0#8, 0#8, 2#8, 0#8, 0#8, 0#8, 0x45#8, 0x43#8, 0#8, 0#8,
       0x3F#8] := by decide

end Dlt
