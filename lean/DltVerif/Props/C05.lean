/-
  C05 — every proper prefix of a valid message is reported incomplete, with a safe hint.
-/
import DltVerif.Lemmas.ParsedFraming

namespace Dlt
theorem prefix_nostorage (bs : Bytes) (f : Option ProcessedFilter) (d : Nat)
    (hf : Spec.framing bs = .complete d) (k : Nat) (hk : k < d) :
    ∃ hint, dltMessageIntern (bs.take k) f false = .incomplete hint
      ∧ ∀ n, hint = some n → 1 ≤ n ∧ n ≤ d - k := by
  obtain ⟨b, hb, hbl⟩ := framing_take_of_complete bs d hf k hk
  have hr := msgBody_closed none (bs.take k) f
  rw [hb] at hr
  obtain ⟨hint, hh, hn⟩ := hr
  refine ⟨hint, hh, fun n hn' => ?_⟩
  obtain ⟨h1, h2⟩ := hn n hn'
  exact ⟨h1, by omega⟩

theorem prefix_storage (bs : Bytes) (f : Option ProcessedFilter) (d : Nat)
    (hp : bs.take 4 = DLT_PATTERN) (hf : Spec.framing (bs.drop 16) = .complete d)
    (k : Nat) (hk : k < 16 + d) :
    ∃ hint, dltMessageIntern (bs.take k) f true = .incomplete hint
      ∧ ∀ n, hint = some n → 1 ≤ n ∧ n ≤ 16 + d - k := by
  obtain ⟨_, hdl, _⟩ := framing_complete_le _ d hf
  rw [List.length_drop] at hdl
  by_cases c : k < 16
  · have hl : (bs.take k).length < 16 := by
      rw [List.length_take]
      omega
    exact ⟨none, dltMessageIntern_storage_short _ f hl, fun n hn => by cases hn⟩
  · have hl : (bs.take k).length = k := List.length_take_of_le (by omega)
    have hp' : (bs.take k).take 4 = DLT_PATTERN := by
      rw [List.take_take, Nat.min_eq_left (by omega)]
      exact hp
    obtain ⟨_, he⟩ := dltMessageIntern_storage_exact (bs.take k) f 0
      (firstPattern_zero _ hp') (by omega)
    have hd : (bs.take k).drop (0 + 16) = (bs.drop 16).take (k - 16) := by
      rw [Nat.zero_add, List.drop_take]
    rw [hd] at he
    obtain ⟨hint, hh, hn⟩ := prefix_nostorage (bs.drop 16) f d hf (k - 16)
      (Nat.sub_lt_left_of_lt_add (Nat.le_of_not_lt c) hk)
    rw [hh, PRes.map_incomplete] at he
    refine ⟨hint, he, fun n hn' => ?_⟩
    rw [Nat.add_comm, ← Nat.sub_sub_right d (Nat.le_of_not_lt c)]
    exact hn n hn'

/-- For every well-formed message and every proper prefix of its serialisation the parser
    reports `incomplete` — not a message, not a hard error — and a size hint, when present,
    is at least 1 and never larger than the number of bytes actually missing. -/
theorem C05_prefix (m : Message) (h : m.wf = true) (k : Nat) (hk : k < m.asBytes.length) :
    ∃ hint, dltMessage (m.asBytes.take k) none m.storageHeader.isSome = .error (.incomplete hint)
      ∧ ∀ n, hint = some n → 1 ≤ n ∧ n ≤ m.asBytes.length - k := by
  cases hs : m.storageHeader.isSome with
  | false =>
    obtain ⟨hint, hh, hn⟩ :=
      prefix_nostorage m.asBytes none _ (Message.asBytes_framing m h hs) k hk
    exact ⟨hint, congrArg PRes.toResult hh, hn⟩
  | true =>
    obtain ⟨hp, h16, hf⟩ := Message.asBytes_storage_layout m h hs
    obtain ⟨hint, hh, hn⟩ := prefix_storage m.asBytes none _ hp hf k (by omega)
    refine ⟨hint, congrArg PRes.toResult hh, fun n hn' => ?_⟩
    obtain ⟨h1, h2⟩ := hn n hn'
    exact ⟨h1, by omega⟩

/-- the same for the message skipper, for every non-empty proper prefix -/
theorem C05_skipper (m : Message) (h : m.wf = true) (hs : m.storageHeader.isSome = true)
    (k : Nat) (hk0 : 0 < k) (hk : k < m.asBytes.length) :
    ∃ hint, dltConsumeMsg (m.asBytes.take k) = .incomplete hint
      ∧ ∀ n, hint = some n → 1 ≤ n ∧ n ≤ m.asBytes.length - k := by
  obtain ⟨hp, h16, hf⟩ := Message.asBytes_storage_layout m h hs
  obtain ⟨n, hh, h1, h2⟩ := dltConsumeMsg_take m.asBytes _ hp h16 hf k hk0 (by omega)
  exact ⟨some n, hh, fun _ hn => by cases hn; exact ⟨h1, by omega⟩⟩

/-- on empty input the skipper reports that there is no message -/
theorem C05_skipper_empty : dltConsumeMsg [] = .ok none [] := by
  rfl

/-- and on the complete message it skips exactly the message -/
theorem C05_skipper_complete (m : Message) (h : m.wf = true) (hs : m.storageHeader.isSome = true)
    (sfx : Bytes) : dltConsumeMsg (m.asBytes ++ sfx) = .ok (some m.asBytes.length) sfx := by
  obtain ⟨hp, h16, hf⟩ := Message.asBytes_storage_layout m h hs
  have hc := dltConsumeMsg_pattern (m.asBytes ++ sfx)
    (by rw [List.take_append_of_le_length (by omega)]; exact hp)
    (by rw [List.length_append]; omega)
  rw [List.drop_append_of_le_length h16, framing_append_of_complete _ sfx _ hf] at hc
  simp only [] at hc
  rw [hc, List.drop_left' List.length_drop]
  congr 3
  omega

end Dlt
