/-
  C18 — fixed-point arguments convert to quantization x value + offset without panicking.

  Model: `Argument.toRealValue` (Model/Fixed.lean).  The double-precision product and the
  saturating `as u64` cast are the executable exact-arithmetic functions `F64.mul`,
  `F64.toU64` (tied to the crate by the correspondence run); the theorems are about what
  happens to the cast result `p = truncatedProduct v q`: the repaired code adds the
  sign-extended offset with wrap-around, which is the exact sum whenever that sum is a
  `u64` below 2^63 — and nothing in it can panic (no checked operation is left).

  The rounding of the model is proved to be round-to-nearest, ties-to-even onto a 53-bit
  significand (`C18_int_to_f64`, `C18_mul`), which is what IEEE-754 prescribes for binary64
  results; that the hardware's `f64` arithmetic implements IEEE-754 is trusted and compared
  bit-for-bit with the model on every case of every run.
-/
import DltVerif.Lemmas.FixedExact

namespace Dlt

/-- the cast truncates toward zero: for a finite non-negative double `m * 2^e` it yields
    `floor (m * 2^e)`, saturated at `u64::MAX` -/
theorem C18_trunc (m : Nat) (e : Int) :
    (F64.fin false m e).toU64 =
      min (if e ≥ 0 then m * 2 ^ e.toNat else m / 2 ^ (-e).toNat) (2 ^ 64 - 1) :=
  F64.toU64_fin_false m e

theorem FixedPointValue.asU64_eq (o : FixedPointValue) :
    (o.asU64 : Int) = o.toInt % 2 ^ 64 := by
  cases o with
  | i32 v =>
    simp only [FixedPointValue.asU64, FixedPointValue.toInt, BitVec.signExtend, BitVec.toNat_ofInt]
    exact Int.toNat_of_nonneg (Int.emod_nonneg _ (by decide))
  | i64 v =>
    simp only [FixedPointValue.asU64, FixedPointValue.toInt]
    have h := Int.bmod_emod (x := v.toNat) (m := 2 ^ 64)
    have hv := v.isLt
    rw [BitVec.toInt_eq_toNat_bmod]
    omega

theorem Spec.isFixedPointKind_iff (k : TypeInfoKind) :
    Spec.isFixedPointKind k = true ↔
      (∃ w, k = .signedFixedPoint w) ∨ (∃ w, k = .unsignedFixedPoint w) := by
  cases k <;> simp [Spec.isFixedPointKind]

theorem Argument.toRealValue_eq (a : Argument) :
    a.toRealValue =
      if Spec.isFixedPointKind a.typeInfo.kind = true then
        a.fixedPoint.bind fun fp => a.value.asInt?.map fun v =>
          (truncatedProduct v fp.quantization + fp.offset.asU64) % 2 ^ 64
      else none := by
  unfold Argument.toRealValue Argument.logV
  cases a.typeInfo.kind <;> first | rfl | (cases a.fixedPoint <;> cases a.value.asInt? <;> rfl)

/-- a real value is produced only for a fixed-point kind that carries fixed-point data
    and an 8..64-bit integer value -/
theorem C18_none_unless (a : Argument) (h : a.toRealValue ≠ none) :
    ((∃ w, a.typeInfo.kind = .signedFixedPoint w) ∨ (∃ w, a.typeInfo.kind = .unsignedFixedPoint w))
      ∧ a.fixedPoint.isSome ∧ a.value.asInt?.isSome := by
  rw [Argument.toRealValue_eq] at h
  split at h
  · rename_i hk
    refine ⟨(Spec.isFixedPointKind_iff _).mp hk, ?_⟩
    cases hf : a.fixedPoint <;> cases hv : a.value.asInt? <;> simp [hf, hv] at h ⊢
  · exact absurd rfl h

/-- whenever the truncated product `p` plus the offset lies in `0 .. 2^63`, the result is
    exactly that sum -/
theorem C18_sum (a : Argument) (fp : FixedPoint) (v : Int)
    (hk : (∃ w, a.typeInfo.kind = .signedFixedPoint w) ∨ (∃ w, a.typeInfo.kind = .unsignedFixedPoint w))
    (hf : a.fixedPoint = some fp) (hv : a.value.asInt? = some v)
    (h0 : 0 ≤ (truncatedProduct v fp.quantization : Int) + fp.offset.toInt)
    (h1 : (truncatedProduct v fp.quantization : Int) + fp.offset.toInt < 2 ^ 63) :
    a.toRealValue = some ((truncatedProduct v fp.quantization : Int) + fp.offset.toInt).toNat := by
  have ho := FixedPointValue.asU64_eq fp.offset
  rw [Argument.toRealValue_eq, if_pos ((Spec.isFixedPointKind_iff _).mpr hk), hf, hv]
  simp only [Option.bind_some, Option.map_some, Option.some.injEq]
  generalize truncatedProduct v fp.quantization = p at *
  generalize fp.offset.asU64 = ou at *
  generalize fp.offset.toInt = oi at *
  rw [← Int.ofNat_inj, Int.toNat_of_nonneg h0]
  omega

/-- the result always is a `u64` (the addition wraps, it cannot overflow) -/
theorem C18_result_u64 (a : Argument) (r : Nat) (h : a.toRealValue = some r) : r < 2 ^ 64 := by
  rw [Argument.toRealValue_eq] at h
  split at h
  · cases hf : a.fixedPoint <;> cases hv : a.value.asInt? <;> simp [hf, hv] at h
    exact h ▸ Nat.mod_lt _ (by decide)
  · cases h

/-- a significand / exponent pair is the round-to-nearest-even of the number `m * 2^e` onto a
    53-bit significand: `q * 2^(e+k)` is a nearest multiple of `2^(e+k)`, an exact tie goes to
    the even significand, and `q` has at most 53 bits (exactly 53 when bits were dropped) -/
def IsRne53 (m : Nat) (e : Int) (q : Nat) (e' : Int) : Prop :=
  ∃ k : Nat, e' = e + (k : Int)
    ∧ 2 * m ≤ 2 * (q * 2 ^ k) + 2 ^ k ∧ 2 * (q * 2 ^ k) ≤ 2 * m + 2 ^ k
    ∧ ((2 * m = 2 * (q * 2 ^ k) + 2 ^ k ∨ 2 * (q * 2 ^ k) = 2 * m + 2 ^ k) → k ≠ 0 → q % 2 = 0)
    ∧ q ≤ 2 ^ 53 ∧ ((k = 0 ∧ q = m) ∨ 2 ^ 52 ≤ q)

/-- `v as f64` is the integer rounded to nearest, ties to even -/
theorem C18_int_to_f64 (v : Int) :
    ∃ q e', intToF64 v = .fin (decide (v < 0)) q e' ∧ IsRne53 v.natAbs 0 q e' := by
  obtain ⟨k, q, h, h1, h2, h3, h4, h5, _⟩ := round53_nearest_even v.natAbs 0
  refine ⟨q, 0 + (k : Int), ?_, k, rfl, h1, h2, h3, h4, h5⟩
  simp only [intToF64, h]

/-- the product of two finite doubles is the exact product rounded to nearest, ties to even -/
theorem C18_mul (n1 n2 : Bool) (m1 m2 : Nat) (e1 e2 : Int) :
    ∃ q e', F64.mul (.fin n1 m1 e1) (.fin n2 m2 e2) = .fin (n1 != n2) q e'
      ∧ IsRne53 (m1 * m2) (e1 + e2) q e' := by
  obtain ⟨k, q, h, h1, h2, h3, h4, h5, _⟩ := round53_nearest_even (m1 * m2) (e1 + e2)
  refine ⟨q, e1 + e2 + (k : Int), ?_, k, rfl, h1, h2, h3, h4, h5⟩
  simp only [F64.mul, h]

/-- an `f32` quantization converts to double exactly (24-bit significand) -/
theorem C18_f32_exact (bits : BitVec 32) (neg : Bool) (m : Nat) (e : Int)
    (h : f32ToF64 bits = .fin neg m e) : m < 2 ^ 24 := by
  have := Nat.mod_lt bits.toNat (by decide : 0 < 2 ^ 23)
  unfold f32ToF64 at h
  simp only [] at h
  generalize bits.toNat % 2 ^ 23 = frac at *
  split at h
  · split at h <;> cases h
  · split at h <;> cases h <;> omega

theorem Spec.intOf_eq (v : Value) : Spec.intOf v = v.asInt? := by
  cases v <;> rfl

theorem Spec.offsetOf_eq (o : FixedPointValue) : Spec.offsetOf o = o.toInt := by
  cases o <;> rfl

theorem FixedPointValue.toInt_ge (o : FixedPointValue) : -(2 ^ 63 : Int) ≤ o.toInt := by
  cases o with
  | i32 v => have := BitVec.le_toInt v; simp only [FixedPointValue.toInt]; omega
  | i64 v => have := BitVec.le_toInt v; simp only [FixedPointValue.toInt]; omega

/-- THE PROPERTY AGAINST THE IEEE DEFINITION.  `Spec.realValue` (Spec/Fixed.lean) computes
    `value x quantization + offset` on values: `value as f64` and the double product are
    `Spec.nearestDouble` (the nearest representable number, ties to the even significand, as
    IEEE 754 defines the default rounding), the cast truncates, the offset is added in the
    integers.  It speaks whenever the product is not negative and the sum lies in `0 .. 2^63`
    — exactly the property's premise.  Wherever it speaks, the model of the conversion code —
    with its significand / exponent rounding, its saturating cast and its wrapping addition —
    yields exactly that number. -/
theorem C18_exact (a : Argument) (n : Nat) (h : Spec.realValue a = .exactly n) :
    a.toRealValue = some n := by
  unfold Spec.realValue at h
  split at h
  · rename_i fp hk hf
    rw [Spec.intOf_eq] at h
    split at h
    · split at h <;> cases h
    · rename_i v hv
      split at h
      · cases h
      · rename_i qneg m e hq
        simp only [] at h
        generalize hy : Spec.nearestDouble (Spec.nearestDouble v.natAbs * m) = y at h
        rw [show (if e ≥ 0 then y * 2 ^ e.toNat else y / 2 ^ (-e).toNat) = floorScale y e from rfl,
          Spec.offsetOf_eq] at h
        split at h
        · cases h
        · rename_i hs
          split at h
          · rename_i hsum
            cases h
            -- the sum is below 2^63 and the offset not below -2^63: the product is below 2^64, so the cast
            -- does not saturate
            have hge := FixedPointValue.toInt_ge fp.offset
            have htp := truncatedProduct_spec v fp.quantization qneg m e y hq hy (by simpa using hs)
              (by omega)
            rw [← htp] at hsum
            rw [C18_sum a fp v ((Spec.isFixedPointKind_iff _).mp hk) hf hv hsum.1 hsum.2, htp]
          · cases h
  · cases h

/-- ... and wherever the exact-arithmetic reference says "nothing", the model yields nothing -/
theorem C18_exact_nothing (a : Argument) (h : Spec.realValue a = .nothing) :
    a.toRealValue = none := by
  apply Classical.byContradiction
  intro hne
  obtain ⟨hk, hf, hv⟩ := C18_none_unless a hne
  obtain ⟨fp, hf⟩ := Option.isSome_iff_exists.mp hf
  obtain ⟨v, hv⟩ := Option.isSome_iff_exists.mp hv
  unfold Spec.realValue at h
  rw [(Spec.isFixedPointKind_iff _).mpr hk, hf] at h
  simp only [Spec.intOf_eq, hv] at h
  split at h
  · cases h
  · generalize (if (_ : Int) ≥ 0 then _ else _) = p at h
    split at h
    · cases h
    · split at h <;> cases h

-- non-vacuity: degrees Celsius example of the source comment (7785 * 0.01 - 50 = 27),
-- and the input that used to panic (1000 * 1.0 - 200 = 800)
example : Argument.toRealValue
    { typeInfo := { kind := .signedFixedPoint .w32, coding := .ascii, hasVariableInfo := false,
                    hasTraceInfo := false },
      name := none, unit := none,
      fixedPoint := some { quantization := 0x3f800000#32, offset := .i32 (BitVec.ofInt 32 (-200)) },
      value := .i32 1000#32 } = some 800 := by decide

/-- the rounding definition of the Spec and the model's rounding denote the same number,
    for every integer -/
theorem C18_rounding (m : Nat) (e : Int) :
    ∃ k q : Nat, round53 m e = (q, e + (k : Int)) ∧ q * 2 ^ k = Spec.nearestDouble m :=
  round53_value m e

/-- rounding commutes with scaling by a power of two -/
theorem C18_rounding_scale (a j : Nat) :
    Spec.nearestDouble (a * 2 ^ j) = Spec.nearestDouble a * 2 ^ j :=
  nearestDouble_scale a j

-- non-vacuity of `C18_exact`: the reference speaks on the Celsius example
-- (7785 * 0.01f32 = 77.849..., truncated 77, minus 50), and on an input where both roundings
-- are inexact (2^64 - 1 rounds to 2^64; times 0.1f32, a 24-bit significand)
example : Spec.nearestDouble (2 ^ 64 - 1) = 2 ^ 64 := by decide +kernel
example : Spec.nearestDouble (2 ^ 53 + 1) = 2 ^ 53 := by decide +kernel
example : Spec.nearestDouble (2 ^ 53 + 3) = 2 ^ 53 + 4 := by decide +kernel
example : Spec.realValue
    { typeInfo := { kind := .signedFixedPoint .w32, coding := .ascii, hasVariableInfo := false,
                    hasTraceInfo := false },
      name := none, unit := none,
      fixedPoint := some { quantization := 0x3c23d70a#32, offset := .i32 (BitVec.ofInt 32 (-50)) },
      value := .i32 7785#32 } = .exactly 27 := by decide +kernel

end Dlt
