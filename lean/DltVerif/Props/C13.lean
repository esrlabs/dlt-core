/-
  C13 — non-verbose argument construction decodes packed fields in order or refuses.

  Model: `constructArguments` (Model/NonVerbose.lean), the offset/slice based loop of
  `construct_arguments` with a `panic` outcome at every slice expression.
  Spec: `Spec.construct` (Spec/NonVerbose.lean), a consumer of the remaining payload.
-/
import DltVerif.Lemmas.NonVerbose
import DltVerif.Lemmas.CodecNum

namespace Dlt

/-- for all type lists, payloads and byte orders the model computes what the spec says;
    in particular it never takes the `panic` outcome (no slice goes out of bounds) -/
theorem C13_refines (e : Endian) (types : List TypeInfo) (data : Bytes) :
    (constructArguments e types data).toOption = some (Spec.construct e types data) := by
  have := constructFrom_refines e data types 0 (Nat.zero_le _)
  simpa [constructArguments] using this

theorem C13_nopanic (e : Endian) (types : List TypeInfo) (data : Bytes) :
    constructArguments e types data ≠ .panic := by
  intro h
  have := C13_refines e types data
  rw [h] at this
  cases this

/-- one argument per type, in order, each carrying its type and no name/unit/fixed point -/
theorem C13_shape (e : Endian) (types : List TypeInfo) (data : Bytes) (args : List Argument)
    (h : Spec.construct e types data = some args) :
    args.map (·.typeInfo) = types
    ∧ ∀ a ∈ args, a.name = none ∧ a.unit = none ∧ a.fixedPoint = none := by
  induction types generalizing data args with
  | nil => cases h; exact ⟨rfl, fun _ ha => nomatch ha⟩
  | cons ti tis ih =>
    simp only [Spec.construct] at h
    split at h
    · cases h
    · rename_i v rest' hf
      split at h
      · cases h
      · rename_i as has
        cases h
        obtain ⟨h1, h2⟩ := ih rest' as has
        exact ⟨by rw [List.map_cons, h1], List.forall_mem_cons.2 ⟨⟨rfl, rfl, rfl⟩, h2⟩⟩

/-- trailing bytes are ignored: appending bytes to a sufficient payload changes nothing -/
theorem C13_trailing (e : Endian) (types : List TypeInfo) (data extra : Bytes)
    (args : List Argument) (h : Spec.construct e types data = some args) :
    Spec.construct e types (data ++ extra) = some args := by
  induction types generalizing data args with
  | nil => simpa [Spec.construct] using h
  | cons ti tis ih =>
    simp only [Spec.construct] at h ⊢
    split at h
    · cases h
    · rename_i v rest' hf
      rw [Spec.field_append e ti.kind data extra v rest' hf]
      simp only
      split at h
      · cases h
      · rename_i as has
        rw [ih rest' as has]
        exact h

-- non-vacuity: u16 big-endian, then a string of length 2, one trailing byte
example : Spec.construct .big
    [{ kind := .unsigned .b16, coding := .ascii, hasVariableInfo := false, hasTraceInfo := false }]
    [0x01#8, 0x02#8, 0xFF#8]
    = some [{ typeInfo := { kind := .unsigned .b16, coding := .ascii, hasVariableInfo := false,
                            hasTraceInfo := false },
              name := none, unit := none, fixedPoint := none, value := .u16 0x0102#16 }] := by
  decide

/-- "in a stated byte order": the number the Spec reads from a field (`Endian.value`, shared
    with the model's vocabulary) is the positional value of its bytes - most significant byte
    first for big endian, last for little endian (`Spec.num` of Spec/Codec.lean, a digit sum) -/
theorem C13_numbers (e : Endian) (bs : Bytes) : e.value bs = Spec.num e bs := (num_eq e bs).symm

end Dlt
