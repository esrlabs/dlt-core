/-
  C11 — the FIBEX model returned is exactly the model written in the files.

  Model: Model/Fibex.lean (L1 `Reader::read_event` over quick-xml's event stream, L2
  `read_pdu` / `read_frame` / `read_fibexes` / `type_info_for_signal_ref` /
  `extract_metadata`).  Spec: Spec/Fibex.lean (`Spec.model`: sort instances by sequence
  number, resolve signal -> coding -> base type, first definition of a duplicated frame or
  PDU id wins, unknown signal references are skipped, an unknown PDU reference fails;
  `render`: the layout of a document as XML events).
-/
import DltVerif.Lemmas.FibexRead
import DltVerif.Lemmas.FibexOrder
import DltVerif.Lemmas.FibexKeyed
import DltVerif.Lemmas.FibexVocab
import DltVerif.Lemmas.FibexStrip
import DltVerif.Lemmas.FibexAttrs

namespace Dlt
open Dlt.Fibex Dlt.Fibex.Spec

/-- Loading the rendering of any set of well-formed documents returns exactly the model the
    Spec reads off the documents (through both layers: XML events -> FIBEX events ->
    metadata), or fails exactly when the Spec says loading must fail. -/
theorem C11_load (files : List FileDoc) (hne : files ≠ [])
    (hw : ∀ d ∈ files, d.all Elem.wf = true) :
    gatherFibexData (files.map fun d => some (render d)) = .ok (Spec.model files) := by
  unfold gatherFibexData
  have hemp : (files.map fun d => some (render d)).isEmpty = false := by
    cases files with
    | nil => exact absurd rfl hne
    | cons _ _ => rfl
  rw [hemp]
  simp only [Bool.false_eq_true, if_false]
  unfold readFibexes
  rw [readFiles_render files hw, foldl_accStep_empty]
  simp only []
  rw [build_accOf]
  cases Spec.model files <;> rfl

/-- the same for files that are not laid out compactly: in front of every element and before
    the end of each file there may be any number of events a loader passes over - white space
    and other text, comments, processing instructions, CDATA, unknown elements (pretty-printed
    files, vendor extensions).  The model returned is that of the elements alone. -/
theorem C11_load_gapped (files : List (List (List XmlEv × Elem) × List XmlEv)) (hne : files ≠ [])
    (hw : ∀ f ∈ files, f.1.all (fun x => x.1.all isGap && x.2.wf) = true ∧ f.2.all isGap = true) :
    gatherFibexData (files.map fun f => some (renderGapped f.1 f.2))
      = .ok (Spec.model (files.map fun f => f.1.map (·.2))) := by
  have hw' : ∀ f ∈ files, (∀ x ∈ f.1, x.1.all isGap = true ∧ x.2.wf = true) ∧ f.2.all isGap = true := by
    simpa only [List.all_eq_true, Bool.and_eq_true] using hw
  have hs : (files.map fun f => renderGapped f.1 f.2).map significant
      = ((files.map fun f => f.1.map (·.2)).map render).map significant := by
    simp only [List.map_map, List.map_inj_left, Function.comp_def]
    exact fun f hf => significant_renderGapped f.1 f.2 (fun x hx => ((hw' f hf).1 x hx).1) (hw' f hf).2
  have hwf : ∀ d ∈ files.map (fun f => f.1.map (·.2)), d.all Elem.wf = true := by
    simp only [List.mem_map, List.all_eq_true, forall_exists_index, and_imp, forall_apply_eq_imp_iff₂]
    exact fun f hf x hx => ((hw' f hf).1 x hx).2
  rw [← C11_load _ (by simpa using hne) hwf]
  simpa only [List.map_map, Function.comp_def] using gatherFibexData_seen readEvent_significant _ _ hs

theorem seen_invisible : Invisible seen :=
  Invisible.comp readEvent_significant plainAttrs_invisible

/-- ANY layout: every set of files of which a loader sees what it sees of the rendering of
    well-formed documents - pretty-printed, commented, with vendor elements and foreign
    attributes anywhere - loads to the model of those documents. -/
theorem C11_load_any_layout (files : List (List XmlEv)) (docs : List FileDoc) (hne : docs ≠ [])
    (hw : ∀ d ∈ docs, d.all Elem.wf = true)
    (hs : files.map seen = (docs.map render).map seen) :
    gatherFibexData (files.map some) = .ok (Spec.model docs) := by
  rw [gatherFibexData_seen seen_invisible _ _ hs, List.map_map]
  exact C11_load docs hne hw

-- non-vacuity: a pretty-printed file with a comment, a vendor element between the children of a
-- SIGNAL and an `OID` attribute in front of its `ID` shows the loader what the compact rendering
-- shows it
example : seen
    [.other, .start .other [], .text (some [0x0A#8]), .start .other [], .text (some [0x0A#8]),
     .start .SIGNAL (.ok [0x4F#8, 0x49#8, 0x44#8] (some [0x6F#8]) :: idAttr [0x53#8]),
     .text (some [0x0A#8, 0x20#8]), .other,
     .start .SHORT_NAME [], .text (some [0x53#8]), .end_ .SHORT_NAME, .text (some [0x0A#8]),
     .empty .other [], .empty .CODING_REF (idRefAttr [0x43#8]), .text (some [0x0A#8]),
     .end_ .SIGNAL, .text (some [0x0A#8]), .end_ .other, .end_ .other]
    = seen (render [Elem.signal [0x53#8] [0x43#8]]) := by decide

-- non-vacuity: a comment, white space and an unknown empty element in front of a SIGNAL, white
-- space before the end
example : ([([.other, .text (some [0x0A#8, 0x20#8]), .empty .other []], Elem.signal [0x53#8] [0x43#8])]
    : List (List XmlEv × Elem)).all (fun x => x.1.all isGap && x.2.wf) = true
    ∧ ([XmlEv.text (some [0x0A#8])]).all isGap = true := by decide

/-- distribution over several files does not matter: only the concatenation of the
    documents' elements does -/
theorem C11_partition (files files' : List FileDoc) (hne : files ≠ []) (hne' : files' ≠ [])
    (hw : ∀ d ∈ files, d.all Elem.wf = true) (hw' : ∀ d ∈ files', d.all Elem.wf = true)
    (h : files.flatten = files'.flatten) :
    gatherFibexData (files.map fun d => some (render d))
      = gatherFibexData (files'.map fun d => some (render d)) := by
  rw [C11_load files hne hw, C11_load files' hne' hw']
  unfold Spec.model
  rw [h]

/-- instances are ordered by sequence number: the result of `sortByKey` is a permutation of
    its input, ascending in the key -/
theorem C11_sorted {α : Type} (l : List (Nat × α)) :
    (sortByKey l).Perm l ∧ (sortByKey l).Pairwise (fun a b => a.1 ≤ b.1) :=
  ⟨sortByKey_perm l, sortByKey_sorted l⟩

/-- looking a frame up by its id alone returns the FIRST frame with that id in document
    order, with its PDUs resolved -/
theorem C11_first_wins (files : List FileDoc) (md : FibexMetadata) (h : Spec.model files = some md)
    (id : Bytes) :
    lookupKV md.frameMap id
      = ((framesOf files.flatten).find? (·.id == id)).bind (frameMeta files.flatten) :=
  (model_lookup h).1 id

/-- loading fails for a permutation of the elements exactly when it fails for the original -/
theorem C11_order_fails (es es' : List Elem) (hp : es.Perm es') (hd : DistinctIds es) :
    (Spec.model [es]).isSome = (Spec.model [es']).isSome := by
  rw [Spec.model_isSome, Spec.model_isSome, List.flatten_singleton, List.flatten_singleton,
    frameMeta_perm hp hd]
  exact (hp.filterMap _).all_eq

/-- the order of the elements inside the documents does not matter: with pairwise distinct
    ids of each kind, every frame looked up by its id is the same frame (short name, PDUs in
    sequence order with their resolved signal types, extension) for every permutation of the
    elements -/
theorem C11_order_independent (es es' : List Elem) (hp : es.Perm es') (hd : DistinctIds es)
    (md md' : FibexMetadata) (h : Spec.model [es] = some md) (h' : Spec.model [es'] = some md')
    (id : Bytes) : lookupKV md.frameMap id = lookupKV md'.frameMap id := by
  rw [C11_first_wins [es] md h, C11_first_wins [es'] md' h', List.flatten_singleton, List.flatten_singleton]
  exact frames_perm hp hd _ fun _ _ ha hb => (beq_iff_eq.mp ha).trans (beq_iff_eq.mp hb).symm

/-- looking a frame up by (context id, application id, frame id) returns the FIRST frame in
    document order that carries exactly these three ids (frames without a manufacturer
    extension, or with only one of the two ids, are not in this map) -/
theorem C11_first_wins_keyed (files : List FileDoc) (md : FibexMetadata)
    (h : Spec.model files = some md) (key : FrameKey) :
    lookupK md.frameMapWithKey key
      = ((framesOf files.flatten).find? (hasKey key)).bind (frameMeta files.flatten) :=
  (model_lookup h).2 key

/-- ... and the keyed lookup does not depend on the order of the elements either -/
theorem C11_order_independent_keyed (es es' : List Elem) (hp : es.Perm es') (hd : DistinctIds es)
    (md md' : FibexMetadata) (h : Spec.model [es] = some md) (h' : Spec.model [es'] = some md')
    (key : FrameKey) : lookupK md.frameMapWithKey key = lookupK md'.frameMapWithKey key := by
  rw [C11_first_wins_keyed [es] md h, C11_first_wins_keyed [es'] md' h', List.flatten_singleton,
    List.flatten_singleton]
  exact frames_perm hp hd _ fun a b ha hb => (hasKey_id key a ha).trans (hasKey_id key b hb).symm

/-- the type vocabulary: `Spec.typeOf` (phrased with the model's comparison chain) is the table
    written out in Spec/Fibex.lean - the 16 standard signal names (`S_FLOA16` known, without a
    supported type) decide; every other reference goes signal -> coding -> base data type
    through the definitions in force and the 16 base data types -/
theorem C11_vocabulary (es : List Elem) (ref : Bytes) : typeOf es ref = typeOfRef es ref := by
  unfold typeOf typeOfRef
  rw [typeInfoForSignalRef_eq_table, lookupKV_inForce_self,
    funext fun k => lookupKV_inForce_self (codingsOf es) k]
  cases lookupName ref standardSignals <;> rfl

/-- a reference to an unknown PDU makes loading fail -/
theorem C11_unknown_pdu_fails (files : List FileDoc) (f : FrameDoc) (i : Inst)
    (hf : Elem.frame f ∈ files.flatten) (hi : i ∈ f.pdus)
    (hunk : ∀ p, Elem.pdu p ∈ files.flatten → p.id ≠ i.ref) :
    Spec.model files = none :=
  (Spec.model_eq_none_iff files).mpr ⟨f, i, hf, hi, hunk⟩

/-- unknown signal references are skipped: the signal types of a PDU are exactly the known
    ones among its ordered references -/
theorem C11_unknown_signal_skipped (es : List Elem) (p : PduDoc) :
    (pduMeta es p).signalTypes = (ordered p.signals).filterMap (typeOf es) := rfl

/-- metadata lookup: by the extended header's ids when supplied, by the frame id otherwise -/
theorem C11_lookup (md : FibexMetadata) (id : Nat) :
    (∀ app ctx, extractMetadata md id (some (app, ctx))
        = (md.frameMapWithKey.find?
            (·.1 == { contextId := ctx, appId := app,
                      frameId := [0x49#8, 0x44#8, 0x5F#8] ++ decimalBytes id })).map (·.2))
    ∧ extractMetadata md id none = lookupKV md.frameMap ([0x49#8, 0x44#8, 0x5F#8] ++ decimalBytes id) :=
  ⟨fun _ _ => rfl, rfl⟩

/-- non-vacuity: a document with a PDU (two signal instances in descending sequence order,
    one of them unknown), a signal, a coding and a frame with extension is well-formed -/
example : ([ .pdu { id := [0x50#8], shortName := some [0x6E#8], desc := none, byteLength := 3,
                    signals := [⟨[1#8], 2, N_S_BOOL, false⟩, ⟨[2#8], 1, [0x3F#8], true⟩] },
             .signal [0x53#8] [0x43#8], .coding [0x43#8] N_A_UINT8,
             .frame { id := [0x46#8], shortName := [0x66#8], byteLength := 3,
                      pdus := [⟨[3#8], 0, [0x50#8], true⟩],
                      ext := some ⟨none, some [0x31#8], some [0x41#8], some [0x43#8]⟩ } ] : FileDoc).all
    Elem.wf = true := by decide

end Dlt
