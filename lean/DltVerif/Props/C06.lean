/-
  C06 — storage-header resync skips exactly the bytes before the first pattern.
-/
import DltVerif.Props.C04

namespace Dlt

/-- the search reports the number of bytes preceding the FIRST occurrence of the pattern,
    together with the input from that occurrence on -/
theorem C06_search_some (bs : Bytes) (n : Nat) (rest : Bytes) :
    forwardToNextStorageHeader bs = some (n, rest) ↔
      ((bs.drop n).take 4 = DLT_PATTERN ∧ (∀ k, k < n → (bs.drop k).take 4 ≠ DLT_PATTERN)
        ∧ rest = bs.drop n) := by
  unfold forwardToNextStorageHeader
  simp only [findPattern_eq_firstPattern, Option.map_eq_some_iff, Prod.mk.injEq,
    firstPattern_some_iff]
  exact ⟨fun ⟨_, ⟨h1, h2⟩, e, h3⟩ => e ▸ ⟨h1, h2, h3.symm⟩,
    fun ⟨h1, h2, h3⟩ => ⟨n, ⟨h1, h2⟩, rfl, h3.symm⟩⟩

/-- and reports absence exactly when the pattern does not occur -/
theorem C06_search_none (bs : Bytes) :
    forwardToNextStorageHeader bs = none ↔ ∀ k, (bs.drop k).take 4 ≠ DLT_PATTERN := by
  unfold forwardToNextStorageHeader
  rw [findPattern_eq_firstPattern, Option.map_eq_none_iff, firstPattern_none_iff]

theorem firstPattern_junk (j x : Bytes) (hp : x.take 4 = DLT_PATTERN)
    (hj : ∀ k, k < j.length → ((j ++ DLT_PATTERN).drop k).take 4 ≠ DLT_PATTERN) :
    Spec.firstPattern (j ++ x) = some j.length := by
  rw [firstPattern_some_iff]
  refine ⟨by rw [List.drop_left]; exact hp, fun k hk => ?_⟩
  -- below the junk length the 4-byte windows of `j ++ x` are those of `j ++ DLT_PATTERN`
  have hl4 : 4 ≤ ((j ++ DLT_PATTERN).drop k).length := by
    rw [List.length_drop, List.length_append]
    simp only [DLT_PATTERN, List.length_cons, List.length_nil]
    omega
  rw [← List.take_append_drop 4 x, hp, ← List.append_assoc,
    List.drop_append_of_le_length (by rw [List.length_append]; omega),
    List.take_append_of_le_length hl4]
  exact hj k hk

/-- junk in front of the first pattern occurrence is invisible, for EVERY continuation and EVERY
    filter: whatever follows the first pattern occurrence (a message that is delivered,
    one the filter drops, a damaged or an incomplete one), junk in front of it changes neither
    the verdict nor the remainder.  (`x` holds at least the 16 storage-header bytes; with fewer
    the parser asks for more data before it searches.) -/
theorem C06_junk_any (j x : Bytes) (f : Option ProcessedFilter) (h16 : 16 ≤ x.length)
    (hp : x.take 4 = DLT_PATTERN)
    (hj : ∀ k, k < j.length → ((j ++ DLT_PATTERN).drop k).take 4 ≠ DLT_PATTERN) :
    dltMessage (j ++ x) f true = dltMessage x f true := by
  unfold dltMessage
  rw [(dltMessageIntern_storage_exact (j ++ x) f j.length (firstPattern_junk j x hp hj)
      (by rw [List.length_append]; exact Nat.add_le_add_left h16 _)).2,
    (dltMessageIntern_storage_exact x f 0 (firstPattern_zero x hp) h16).2,
    List.drop_left, ← List.drop_drop, List.drop_left, Nat.zero_add, List.drop_zero]

/-- junk in front of a well-formed message with storage header is skipped, provided no
    occurrence of the pattern starts inside the junk (neither a complete one nor one that
    straddles into the message's own pattern): junk ++ message parses to the same message and
    the same remainder as the message alone -/
theorem C06_junk (j : Bytes)
    (hj : ∀ k, k < j.length → ((j ++ DLT_PATTERN).drop k).take 4 ≠ DLT_PATTERN)
    (m : Message) (h : m.wf = true) (hs : m.storageHeader.isSome = true) (sfx : Bytes) :
    dltMessage (j ++ (m.asBytes ++ sfx)) none true = .ok (.item m, sfx) := by
  obtain ⟨hp, h16, _⟩ := Message.asBytes_storage_layout m h hs
  have hrt := dltMessageIntern_asBytes m h sfx
  rw [hs] at hrt
  rw [C06_junk_any j _ none
    (by rw [List.length_append]; exact Nat.le_trans h16 (Nat.le_add_right _ _))
    (by rw [List.take_append_of_le_length (Nat.le_trans (by decide) h16)]; exact hp) hj]
  exact PRes.toResult_eq_ok_iff.2 hrt

/-- the hypothesis of `C06_junk` holds for every junk string without the byte 'D' (0x44):
    no occurrence can start inside it -/
theorem C06_noD_junk (j : Bytes) (hj : ∀ b ∈ j, b ≠ 0x44#8) (k : Nat) (hk : k < j.length) :
    ((j ++ DLT_PATTERN).drop k).take 4 ≠ DLT_PATTERN := by
  rw [List.drop_append_of_le_length (Nat.le_of_lt hk), List.drop_eq_getElem_cons hk]
  intro hc
  simp only [List.cons_append, List.take_succ_cons, DLT_PATTERN] at hc
  injection hc with h1 _
  exact hj _ (List.getElem_mem hk) h1

/-- junk without the byte 'D' in front of a well-formed message with storage header: the
    message is parsed and the remainder is what follows it -/
theorem dltMessage_noD_junk_step (j : Bytes) (hj : ∀ b ∈ j, b ≠ 0x44#8) (m : Message)
    (hwf : m.wf = true) (hs : m.storageHeader.isSome = true) (sfx : Bytes) :
    dltMessage (j ++ (m.asBytes ++ sfx)) none true = .ok (.item m, sfx) :=
  C06_junk j (C06_noD_junk j hj) m hwf hs sfx

/-- the pattern has no border (no proper prefix of it is a suffix of it), so the pattern
    itself followed by anything has its first occurrence at 0 and the next one not before 4 -/
theorem C06_no_border (k : Nat) (hk : 0 < k) (hk4 : k < 4) (x : Bytes) :
    ((DLT_PATTERN ++ x).drop k).take 4 ≠ DLT_PATTERN := by
  obtain rfl | rfl | rfl : k = 1 ∨ k = 2 ∨ k = 3 := by omega
  all_goals
    intro hc
    simp only [DLT_PATTERN, List.cons_append, List.drop_succ_cons, List.drop_zero,
      List.take_succ_cons] at hc
    injection hc with h1 _
    exact absurd h1 (by decide)

/-- junk that does not contain the pattern has no occurrence starting inside it either, not even
    one that straddles into the real pattern: the four bytes of the pattern are pairwise
    different, so no proper prefix of it is a suffix of it -/
theorem notContains_window (j : Bytes) (hj : ∀ k, (j.drop k).take 4 ≠ DLT_PATTERN) (k : Nat)
    (hk : k < j.length) : ((j ++ DLT_PATTERN).drop k).take 4 ≠ DLT_PATTERN := by
  rw [List.drop_append_of_le_length (by omega)]
  have h := hj k
  have hlen : (j.drop k).length = j.length - k := List.length_drop
  generalize j.drop k = t at *
  rcases t with _ | ⟨a, _ | ⟨b, _ | ⟨c, _ | ⟨e, rest⟩⟩⟩⟩
  · simp only [List.length_nil] at hlen; omega
  iterate 3
    intro hc
    simp [DLT_PATTERN] at hc
  · simpa only [List.cons_append, List.take_succ_cons, List.take_zero] using h

/-- the hypothesis of `C06_junk` / `C06_junk_any` says exactly that the junk does not contain
    the pattern (the pattern has no border, so an occurrence cannot straddle from the junk into
    the real pattern) -/
theorem C06_junk_hyp_iff (j : Bytes) :
    (∀ k, k < j.length → ((j ++ DLT_PATTERN).drop k).take 4 ≠ DLT_PATTERN)
      ↔ (∀ k, (j.drop k).take 4 ≠ DLT_PATTERN) :=
  ⟨fun hj k => by
    intro hc
    have hl : ((j.drop k).take 4).length = 4 := by rw [hc]; rfl
    rw [List.length_take, List.length_drop] at hl
    have hk : k < j.length := by omega
    apply hj k hk
    rw [List.drop_append_of_le_length (Nat.le_of_lt hk),
      List.take_append_of_le_length (by rw [List.length_drop]; exact hl ▸ Nat.min_le_right 4 _)]
    exact hc, notContains_window j⟩

/-- a stream of well-formed messages with junk between them that does not contain the pattern
    is recovered completely and in order by repeated parsing in storage mode (`parseAll` of
    Props/C04.lean: the client loop, defined by recursion on what is left) -/
theorem C06_stream (items : List (Bytes × Message))
    (h : ∀ x ∈ items, (∀ k, (x.1.drop k).take 4 ≠ DLT_PATTERN) ∧ x.2.wf = true
      ∧ x.2.storageHeader.isSome = true) :
    parseAll none true (items.map fun x => x.1 ++ x.2.asBytes).flatten
      = items.map (fun x => ParsedMessage.item x.2) := by
  induction items with
  | nil =>
    rw [parseAll_eq]
    rfl
  | cons x t ih =>
    obtain ⟨hj, hwf, hs⟩ := h x List.mem_cons_self
    rw [List.map_cons, List.flatten_cons, List.append_assoc, parseAll_eq,
      C06_junk x.1 (notContains_window x.1 hj) x.2 hwf hs]
    exact congrArg (_ :: ·) (ih fun y hy => h y (List.mem_cons_of_mem _ hy))

end Dlt
