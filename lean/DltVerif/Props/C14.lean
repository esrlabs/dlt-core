/-
  C14 — header-type, message-info and type-info codes decode and re-encode consistently.

  HTYP / MSIN: complete finite tables, decided by the kernel over all 256 values.
  Type info: statements for all 2^32 words, by comparison of the fields of the word
  (Lemmas/TypeInfoWord.lean).
-/
import DltVerif.Spec.Codes
import DltVerif.Lemmas.TypeInfoWord

namespace Dlt

/-- the fields `dlt_standard_header` extracts from an HTYP byte -/
structure HtypFields where
  version : BitVec 8
  endian : Endian
  ext : Bool
  ecu : Bool
  sid : Bool
  tms : Bool
  deriving DecidableEq

/-- flag extraction as written in `dlt_standard_header` -/
def decodeHtyp (b : BitVec 8) : HtypFields :=
  { version := (b >>> 5) &&& 0b111#8
    endian := if b &&& BIG_ENDIAN_FLAG != 0#8 then .big else .little
    ext := b &&& WITH_EXTENDED_HEADER_FLAG != 0#8
    ecu := b &&& WITH_ECU_ID_FLAG != 0#8
    sid := b &&& WITH_SESSION_ID_FLAG != 0#8
    tms := b &&& WITH_TIMESTAMP_FLAG != 0#8 }

def encodeHtyp (f : HtypFields) : BitVec 8 :=
  standardHeaderType f.ext f.endian f.ecu f.sid f.tms f.version

/-- Spec: the DLT bit layout by weights,
    `HTYP = UEH + 2 MSBF + 4 WEID + 8 WSID + 16 WTMS + 32 VERS` -/
def Spec.htypFields (b : BitVec 8) : HtypFields :=
  let n := b.toNat
  { version := BitVec.ofNat 8 (n / 32)
    endian := if n / 2 % 2 = 1 then .big else .little
    ext := n % 2 = 1
    ecu := n / 4 % 2 = 1
    sid := n / 8 % 2 = 1
    tms := n / 16 % 2 = 1 }

/-- all 256 header-type bytes: decode/re-encode is the identity, the decoded fields are the
    ones the layout prescribes, and the header length is 4 + 4 per optional field + 10 -/
theorem C14_htyp : ∀ b : BitVec 8,
    encodeHtyp (decodeHtyp b) = b ∧ decodeHtyp b = Spec.htypFields b
    ∧ calculateAllHeadersLength b =
        4 + (if (Spec.htypFields b).ecu then 4 else 0) + (if (Spec.htypFields b).sid then 4 else 0)
          + (if (Spec.htypFields b).tms then 4 else 0) + (if (Spec.htypFields b).ext then 10 else 0) := by
  decide +kernel

/-- all 256 message-info bytes: decode/re-encode is the identity and the decoded message
    type and verbose flag are the ones the layout prescribes -/
theorem C14_msin : ∀ b : BitVec 8,
    (MessageType.ofMsin b).toU8 ||| (if b &&& VERBOSE_FLAG != 0#8 then 1#8 else 0#8) = b
    ∧ MessageType.ofMsin b = Spec.msinType b
    ∧ (b &&& VERBOSE_FLAG != 0#8) = (b.toNat % 2 == 1) := by
  decide +kernel

/-- what the decoder returns has a canonical string coding (reserved codings are 2..7) -/
theorem C14_ti_decode_canonical (w : BitVec 32) (d : TypeInfo) (h : TypeInfo.ofU32 w = some d) :
    d.coding.canonical = true := ti_decode_canonical w d h

/-- every description with a canonical coding re-decodes from its own encoding -/
theorem C14_ti_reencode (d : TypeInfo) (hc : d.coding.canonical = true) :
    TypeInfo.ofU32 d.toU32 = some d := ti_reencode d hc

/-- all 2^32 words: decoding refuses, or yields a description whose encoding decodes to
    the same description -/
theorem C14_ti_stable (w : BitVec 32) :
    match TypeInfo.ofU32 w with
    | none => True
    | some d => TypeInfo.ofU32 d.toU32 = some d := by
  split
  · trivial
  · rename_i d h
    exact C14_ti_reencode d (C14_ti_decode_canonical w d h)

/-- the encoding is the same in both byte orders up to byte reversal -/
theorem C14_ti_order (d : TypeInfo) : d.asBytes .big = (d.asBytes .little).reverse := by
  simp [TypeInfo.asBytes, Endian.bytes, bytesBE]

/-- all 2^32 words: a word is accepted exactly when it names one supported kind with a
    supported width (Spec/TypeInfo.lean, by weights) -/
theorem C14_ti_accept (w : BitVec 32) : (TypeInfo.ofU32 w).isSome = Spec.tiSupported w.toNat :=
  ofU32_isSome w

/-- all 2^32 words: the decoded description is the one the bit layout prescribes (kind and
    width from TYLE and the kind bits, VARI, TRAI, SCOD by weights) -/
theorem C14_ti_layout (w : BitVec 32) : TypeInfo.ofU32 w = Spec.tiDecode w.toNat :=
  ofU32_eq_tiDecode w

/-- all 2^32 words: the re-encoding of a decoded word differs from the word only in bits the
    format leaves unused for that kind. Field by field (`m` the re-encoding, `n` the word):
    the kind bits 4..10, VARI (11), TRAI (13) and SCOD (15..17) are reproduced; TYLE (0..3) is
    reproduced when the kind has a width and FIXP (12) when the kind is an integer; STRU (14),
    the reserved bits 18..31, TYLE of a kind without width and FIXP of a non-integer kind are
    zero in the re-encoding. -/
theorem C14_ti_unused (w : BitVec 32) (d : TypeInfo) (h : TypeInfo.ofU32 w = some d) :
    let m := d.toU32.toNat
    let n := w.toNat
    m / 16 % 128 = n / 16 % 128 ∧ m / 2048 % 2 = n / 2048 % 2 ∧ m / 8192 % 2 = n / 8192 % 2
    ∧ m / 32768 % 8 = n / 32768 % 8
    ∧ (d.kind.hasWidth = true → m % 16 = n % 16)
    ∧ (d.kind.isInteger = true → m / 4096 % 2 = n / 4096 % 2)
    ∧ m / 16384 % 2 = 0 ∧ m / 262144 = 0
    ∧ (d.kind.hasWidth = false → m % 16 = 0)
    ∧ (d.kind.isInteger = false → m / 4096 % 2 = 0) := by
  rw [ofU32_eq_tiDecode, Spec.tiDecode] at h
  obtain ⟨k, hk, rfl⟩ := Option.map_eq_some_iff.mp h
  obtain ⟨f1, f2, f3, f4, f5, f6, f7, f8⟩ :=
    tiWord_fields ⟨k, Spec.tiCoding w.toNat, Spec.tiBit w.toNat 11, Spec.tiBit w.toNat 13⟩
  obtain ⟨_, _, _, w0, i0⟩ := kind_bounds k
  obtain ⟨k1, k2, k3⟩ := kind_fields w.toNat k hk
  simp only []
  rw [← tiWord_eq, f1, f2, f3, f4, f5, f6, f7, f8, (tiCoding_code w.toNat).1,
    tiBit_val w.toNat 11, tiBit_val w.toNat 13]
  exact ⟨k1, rfl, rfl, rfl, k2, k3, rfl, rfl, w0, i0⟩

-- non-vacuity: a word with unused bits set (reserved bits, STRU) decodes and re-encodes
example : TypeInfo.ofU32 0xFFFC4823#32 = some
    { kind := .signed .b32, coding := .ascii, hasVariableInfo := true, hasTraceInfo := false } := by
  decide
example : TypeInfo.toU32 ({ kind := .signed .b32, coding := .ascii, hasVariableInfo := true
                            hasTraceInfo := false } : TypeInfo) = 0x823#32 := by decide

end Dlt
