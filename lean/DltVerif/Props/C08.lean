/-
  C08 — the async reader delivers what the blocking reader delivers, on any schedule.

  Model: `readAllAsync` (Model/Reader.lean): the same `next_message_slice` logic over the
  `ReadExact` future of futures-util (a poll loop that returns `Pending` to the executor and
  keeps its progress) driven by an executor that re-polls after every wake-up.

  Partial: the theorem is about the poll-loop state machine and an abstract executor; wakers,
  the real executor and `futures::io::BufReader` internals are exercised by the
  correspondence run (`AsyncRead` source that returns `Pending` and wakes itself, under
  `futures::executor::block_on`), not proved.
-/
import DltVerif.Lemmas.Reader

namespace Dlt

/-- the `ReadExact` future, re-polled after every `Pending`, meets the `read_exact` contract
    for every interleaving of `Pending` and `Ready(k bytes)` -/
theorem C08_readExact : ExactContract readExactAsync :=
  readExactAsync_eq ▸ readExact_contract

theorem C08_refines (sched : List Step) (w : Bool) (f : Option ProcessedFilter) (bs : Bytes) :
    readAllAsync sched w f bs = Spec.readStream w f bs :=
  readAllWith_refines _ C08_readExact w f _ _ (Nat.lt_succ_self _)

/-- same messages, same terminal outcome, for every pair of schedules -/
theorem C08_equal (sa sb : List Step) (w : Bool) (f : Option ProcessedFilter) (bs : Bytes) :
    readAllAsync sa w f bs = readAll sb w f bs :=
  (C08_refines sa w f bs).trans (readAllWith_refines _ readExact_contract w f ⟨[], bs, sb⟩ _ (Nat.lt_succ_self _)).symm

end Dlt
