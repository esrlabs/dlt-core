/-
  C09 — filtering drops exactly the messages that fail the configured criteria.

  Model: `filteredOut`, `ExtendedHeader.skipWithLevel` (Model/Decode.lean), `processFilter`
  (Model/Filter.lean).  Spec: `Spec.drops` (Spec/Filter.lean) over the numeric configuration.
-/
import DltVerif.Lemmas.FramingStorage
import DltVerif.Model.Filter

namespace Dlt

/-- the fold of `dedupIds` is the loop of `List.eraseDups` (first occurrences, in order) -/
theorem dedup_foldl_eq_loop (l acc : List Bytes) :
    l.foldl (fun acc x => if acc.contains x then acc else acc ++ [x]) acc
      = List.eraseDupsBy.loop (· == ·) l acc.reverse := by
  induction l generalizing acc with
  | nil => simp [List.eraseDupsBy.loop]
  | cons x xs ih =>
    have hany : acc.reverse.any (fun y => x == y) = acc.contains x := by
      rw [List.any_reverse, List.contains_eq_any_beq]
    rw [List.foldl_cons, ih, List.eraseDupsBy.loop, hany]
    cases hc : acc.contains x with
    | true => simp only [if_true]
    | false =>
      simp only [Bool.false_eq_true, if_false, List.reverse_append, List.reverse_cons,
        List.reverse_nil, List.nil_append, List.cons_append]

theorem dedupIds_eq_eraseDups (l : List Bytes) : dedupIds l = l.eraseDups := by
  unfold dedupIds List.eraseDups List.eraseDupsBy
  rw [dedup_foldl_eq_loop]
  rfl

theorem length_dedupIds (l : List Bytes) : (dedupIds l).length = Spec.distinctCount l := by
  rw [dedupIds_eq_eraseDups]
  rfl

theorem contains_dedupIds (l : List Bytes) (x : Bytes) :
    (dedupIds l).contains x = l.contains x := by
  rw [dedupIds_eq_eraseDups, Bool.eq_iff_iff, List.contains_iff_mem, List.contains_iff_mem,
    List.mem_eraseDups]

theorem levelCode_u8ToLogLevel : ∀ lv : BitVec 8,
    (u8ToLogLevel lv).map Spec.levelCode
      = if lv.toNat = 0 ∨ 6 < lv.toNat then none else some (some lv.toNat) := by
  decide +kernel

theorem skipWithLevel_eq (h : ExtendedHeader) (l : LogLevel) (lv : BitVec 8)
    (hc : Spec.levelCode l = some lv.toNat) :
    h.skipWithLevel l = Spec.levelDrops (some lv) h.messageType := by
  unfold ExtendedHeader.skipWithLevel Spec.levelDrops
  obtain ⟨c, hlv⟩ : ∃ c, lv.toNat = c := ⟨_, rfl⟩
  rw [hlv] at hc
  cases h.messageType with
  | log n =>
    simp only [hlv]
    cases l <;> cases hc <;> cases n <;> rfl
  | _ => rfl

theorem levelDrops_outside (lv : BitVec 8) (hout : lv.toNat = 0 ∨ 6 < lv.toNat) (mt : MessageType) :
    Spec.levelDrops (some lv) mt = false := by
  unfold Spec.levelDrops
  cases mt with
  | log l =>
    simp only []
    cases Spec.levelCode l with
    | none => rfl
    | some c =>
      simp only [decide_eq_false_iff_not]
      omega
  | _ => rfl

theorem level_agree (minL : Option (BitVec 8)) (h : ExtendedHeader) (o : Option LogLevel)
    (hb : minL.bind u8ToLogLevel = o) :
    Spec.levelDrops minL h.messageType
      = match (generalizing := false) o with | some l => h.skipWithLevel l | none => false := by
  subst hb
  cases minL with
  | none => rfl
  | some lv =>
    have hcode := levelCode_u8ToLogLevel lv
    rw [Option.bind_some]
    cases hb : u8ToLogLevel lv with
    | none =>
      rw [hb, Option.map_none] at hcode
      split at hcode
      · rename_i hout
        exact levelDrops_outside lv hout _
      · cases hcode
    | some l =>
      rw [hb, Option.map_some] at hcode
      split at hcode
      · cases hcode
      · injection hcode with hcode
        exact (skipWithLevel_eq h l lv hcode).symm

/-- the model's decision on the processed configuration is the Spec's decision on the
    numeric configuration, for all headers -/
theorem C09_decision (cfg : Spec.FilterConfig) (eh : Option ExtendedHeader) (ecu : Option Bytes) :
    filteredOut eh (some (processFilter cfg)) ecu = Spec.drops cfg eh ecu := by
  obtain ⟨minL, appIds, ecuIds, ctxIds, ac, cc⟩ := cfg
  cases eh with
  | none =>
    cases appIds <;> cases ctxIds <;>
      simp only [filteredOut, processFilter, Spec.drops, Option.map_none, Option.map_some,
        length_dedupIds]
  | some h =>
    obtain ⟨o, hb⟩ : ∃ o, minL.bind u8ToLogLevel = o := ⟨_, rfl⟩
    have hlev := level_agree minL h o hb
    cases o <;> cases appIds <;> cases ctxIds <;> cases ecuIds <;> cases ecu <;>
      simp only [filteredOut, processFilter, Spec.drops, Option.map_none, Option.map_some,
        contains_dedupIds, hb, hlev]

/-- Parsing with a filter gives the result of parsing without one, except that the message
    is replaced by a marker carrying its payload length exactly when `Spec.drops` says so;
    kept messages and the remainder are identical. For ALL byte strings on which the
    unfiltered parse yields a message (stronger than the well-formed domain asked for). -/
theorem C09_filter (cfg : Spec.FilterConfig) (w : Bool) (bs : Bytes) (m : Message) (r : Bytes)
    (h : dltMessage bs none w = .ok (.item m, r)) :
    dltMessage bs (some (processFilter cfg)) w =
      .ok (if Spec.drops cfg m.extendedHeader m.header.ecuId
           then .filteredOut m.header.payloadLength.toNat else .item m, r) := by
  have hi := PRes.toResult_eq_ok_iff.1 h
  have hf := dltMessageIntern_filtered bs (processFilter cfg) w m r hi
  rw [C09_decision] at hf
  exact PRes.toResult_eq_ok_iff.2 hf

/-- numeric minimum levels outside 1..6 mean no level filtering -/
theorem C09_level_outside (cfg : Spec.FilterConfig) (lv : BitVec 8)
    (hl : cfg.minLogLevel = some lv) (hout : lv.toNat = 0 ∨ 6 < lv.toNat) (mt : MessageType) :
    Spec.levelDrops cfg.minLogLevel mt = false := by
  rw [hl]
  exact levelDrops_outside lv hout mt

/-- `skip_with_level` on named levels agrees with the declaration order (the derived
    `PartialOrd`): a message is skipped iff its level is strictly less severe -/
theorem C09_skip_order (h : ExtendedHeader) (l n : LogLevel) (hm : h.messageType = .log n)
    (hl : Spec.levelCode l ≠ none) (hn : Spec.levelCode n ≠ none) :
    h.skipWithLevel l = decide ((Spec.levelCode l).getD 0 < (Spec.levelCode n).getD 0) := by
  unfold ExtendedHeader.skipWithLevel
  rw [hm]
  cases l <;> cases n <;> simp [Spec.levelCode, LogLevel.rank] at hl hn ⊢

end Dlt
