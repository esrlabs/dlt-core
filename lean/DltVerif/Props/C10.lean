/-
  C10 — statistics count every message once per id and merge like a sum.

  Model: Model/Stats.lean (`collect_statistics` scan, `StatisticInfoCollector`,
  `StatisticInfo::merge`; hash maps as association lists).  Spec: Spec/Stats.lean (`tally`
  by `countP`).  Maps are compared as finite maps through `Spec.lookup` (absent = all zero).
  Not modelled: `usize` counter overflow (counters are `Nat`).
-/
import DltVerif.Lemmas.Stats
import DltVerif.Lemmas.StatsVisit

namespace Dlt

open Spec

/-- the standard collector's result equals the independent tally, for every keying, id and
    bucket, and no id is listed twice -/
theorem C10_tally (sts : List Statistic) (k : Keying) (id : Bytes) (b : Bucket) :
    lookup (mapOf k (collectInfo sts)) id b = tally k sts id b
    ∧ (keys (mapOf k (collectInfo sts))).Nodup := by
  rw [mapOf_collectInfo]
  refine ⟨?_, foldl_collect_keys_nodup sts {} k (by rw [collMap_empty]; exact List.nodup_nil)⟩
  rw [foldl_collect_lookup, collMap_empty, lookup_nil, Nat.zero_add]

theorem C10_nonverbose (sts : List Statistic) :
    (collectInfo sts).containedNonVerbose = anyNonVerbose sts :=
  (foldl_collect_nonverbose sts {}).trans (Bool.false_or _)

/-- the ECU totals add up to the number of messages -/
theorem C10_total (sts : List Statistic) : totalOf (collectInfo sts).ecuIds = sts.length :=
  (foldl_collect_total sts {}).trans (Nat.zero_add _)

/-- a merge expression over the statistics of the parts -/
inductive MergeTree where
  | part (i : Nat)
  /-- `StatisticInfo::new()` -/
  | new
  /-- `a.merge(b)` -/
  | node (a b : MergeTree)

def MergeTree.eval (parts : List StatisticInfo) : MergeTree → StatisticInfo
  | .part i => parts.getD i {}
  | .new => {}
  | .node a b => (a.eval parts).merge (b.eval parts)

def MergeTree.leaves : MergeTree → List Nat
  | .part i => [i]
  | .new => []
  | .node a b => a.leaves ++ b.leaves

/-- evaluation of a merge tree over well-formed parts (no id listed twice) is the sum of its
    leaf values `t.leaves.map (ps.getD · {})` in the finite-map reading: the maps stay well
    formed, every counter is the sum over the leaves, the flag is the `or` over the leaves -/
theorem MergeTree.eval_spec (ps : List StatisticInfo)
    (hps : ∀ s ∈ ps, ∀ k, (keys (mapOf k s)).Nodup) (t : MergeTree) :
    (∀ k, (keys (mapOf k (t.eval ps))).Nodup)
    ∧ (∀ k id b, lookup (mapOf k (t.eval ps)) id b
        = ((t.leaves.map (ps.getD · {})).map fun s => lookup (mapOf k s) id b).sum)
    ∧ (t.eval ps).containedNonVerbose
        = (t.leaves.map (ps.getD · {})).any (·.containedNonVerbose) := by
  induction t with
  | part i =>
    refine ⟨fun k => ?_, fun k id b => by simp [MergeTree.eval, MergeTree.leaves],
      by simp [MergeTree.eval, MergeTree.leaves]⟩
    show (keys (mapOf k (ps.getD i {}))).Nodup
    rw [List.getD_eq_getElem?_getD]
    cases h : ps[i]? with
    | none => rw [Option.getD_none, mapOf_empty]; exact List.nodup_nil
    | some s => exact hps s (List.mem_of_getElem? h) k
  | new =>
    simp only [MergeTree.eval, mapOf_empty]
    exact ⟨fun _ => List.nodup_nil, fun _ _ _ => rfl, rfl⟩
  | node a b iha ihb =>
    obtain ⟨ha1, ha2, ha3⟩ := iha
    obtain ⟨hb1, hb2, hb3⟩ := ihb
    simp only [MergeTree.eval, mapOf_merge, MergeTree.leaves, List.map_append, List.sum_append,
      List.any_append]
    exact ⟨fun k => mergeLevels_keys_nodup _ _ (ha1 k),
      fun k id bk => by rw [mergeLevels_lookup _ _ (hb1 k), ha2, hb2],
      by rw [← ha3, ← hb3]; rfl⟩

/-- merging the statistics of the parts of a stream, in ANY order and grouping (any merge
    tree whose leaves are a permutation of the parts, with `StatisticInfo::new()` anywhere),
    gives the statistics of the whole: same counters for every keying, id and bucket, same
    non-verbose flag -/
theorem C10_merge_any_tree (parts : List (List Statistic)) (t : MergeTree)
    (hperm : t.leaves.Perm (List.range parts.length)) :
    (∀ (k : Keying) (id : Bytes) (b : Bucket),
      lookup (mapOf k (t.eval (parts.map collectInfo))) id b = tally k parts.flatten id b)
    ∧ (t.eval (parts.map collectInfo)).containedNonVerbose = anyNonVerbose parts.flatten := by
  have hps : ∀ s ∈ parts.map collectInfo, ∀ k, (keys (mapOf k s)).Nodup := by
    intro s hs k
    obtain ⟨p, _, rfl⟩ := List.mem_map.1 hs
    exact (C10_tally p k [] .nonLog).2
  obtain ⟨_, h2, h3⟩ := MergeTree.eval_spec (parts.map collectInfo) hps t
  -- the leaf values are the parts' statistics in some order; sum and `or` do not see the order
  have hp := perm_getD_range t.leaves (parts.map collectInfo) {} (by rwa [List.length_map])
  refine ⟨fun k id b => ?_, ?_⟩
  · rw [h2, (hp.map _).sum_nat, List.map_map, tally_flatten]
    congr 1
    apply List.map_congr_left
    intro p _
    exact (C10_tally p k id b).1
  · rw [h3, hp.any_eq, List.any_map, anyNonVerbose_flatten]
    congr 1
    funext p
    exact C10_nonverbose p

-- non-vacuity: two parts, merged in reverse order below an empty statistics value
example : (MergeTree.node .new (.node (.part 1) (.part 0))).leaves.Perm (List.range 2) := by
  decide

/-- for EVERY byte stream the scan is a function of the Spec's cut of the stream alone
    (no dependence on buffering): each complete piece is decoded once, a bad length or a
    truncated tail makes the scan fail -/
theorem C10_visit_cut (w : Bool) (bs : Bytes) : visit w bs = visitPieces w (Spec.cut w bs) :=
  visitWith_cut readExact readExact_contract w (bs.length + 1)
    { buf := [], data := bs, sched := [] } (by simp)

/-- the scan visits every message of the stream exactly once, in order, with its decoded
    headers: for a stream that is the concatenation of well-formed messages (all with / all
    without storage header) the collector is handed exactly the Spec's reading of the headers of `m1, .., mk` -/
theorem C10_visit (w : Bool) (ms : List Message)
    (hms : ∀ x ∈ ms, x.wf = true ∧ x.storageHeader.isSome = w) :
    visit w (ms.map Message.asBytes).flatten = some (ms.map Spec.statisticOfMessage) := by
  rw [C10_visit_cut]
  induction ms with
  | nil => rfl
  | cons x xs ih =>
    obtain ⟨hx, hxw⟩ := hms x (List.mem_cons_self ..)
    rw [List.map_cons, List.flatten_cons,
      cut_append_piece w x.asBytes _ (Message.wf_piece_of x w hx hxw)]
    simp only [visitPieces, statisticOfSlice_asBytes x w hx hxw,
      ih (fun y hy => hms y (List.mem_cons_of_mem _ hy)), List.map_cons]

/-- end to end: the statistics collected from a stream of well-formed messages are the
    independent tally over the messages' headers -/
theorem C10_stream_tally (w : Bool) (ms : List Message)
    (hms : ∀ x ∈ ms, x.wf = true ∧ x.storageHeader.isSome = w) (k : Keying) (id : Bytes) (b : Bucket) :
    (visit w (ms.map Message.asBytes).flatten).map (fun sts => lookup (mapOf k (collectInfo sts)) id b)
      = some (tally k (ms.map Spec.statisticOfMessage) id b) := by
  rw [C10_visit w ms hms]
  simp only [Option.map_some]
  rw [(C10_tally (ms.map statisticOfMessage) k id b).1]

end Dlt
