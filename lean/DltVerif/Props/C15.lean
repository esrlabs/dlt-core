/-
  C15 — computed lengths equal serialised lengths; built messages are self-consistent.

  Model: `Argument.len`, `Argument.asBytes`, `Argument.valid`, `Message.new`,
  `Message.byteLen`, `Message.addStorageHeader` (Model/Encode.lean).
  Domain: `Argument.wf`, `MessageConfig.wf` (the property's "any configuration that fits
  the 16-bit length field", spelled out below from the property text).
-/
import DltVerif.Props.C01

namespace Dlt

/-- The length an argument reports equals the number of bytes it serialises to, in either
    byte order. -/
theorem C15_len (a : Argument) (h : a.wf = true) (e : Endian) :
    a.len = (a.asBytes e).length := by
  obtain ⟨⟨kind, coding, vari, trai⟩, name, unit, fp, value⟩ := a
  simp only [Argument.wf, Bool.and_eq_true] at h
  obtain ⟨-, h⟩ := h
  -- each layout is type info, name (and unit) block, value; `len` adds up the same blocks
  split at h
  -- rows of the `match` in `Argument.wf`: h_1 = bool, h_2..h_17 = the 16 numeric rows, h_18 = string,
  -- h_19 = raw, h_20 = catch-all
  case h_20 => exact absurd h (by simp)
  case' h_1 => simp only [Argument.asBytes, bufTypeInfoName_eq]
  case' h_18 =>
    simp only [Bool.and_eq_true] at h
    rw [asBytes_string e _ _ _ _ _ _ _ h.1.1]
  case' h_19 =>
    simp only [Bool.and_eq_true] at h
    rw [asBytes_raw e _ _ _ _ _ _ _ h.1.1]
  case h_1 | h_18 | h_19 =>
    cases name <;>
      simp only [Argument.len, optNameBytes, optBytes, textBytes, TypeInfo.asBytes, TYPE_INFO_LENGTH,
        List.length_append, List.length_cons, List.length_nil, Endian.length_bytes] <;>
      omega
  all_goals
    simp only [Bool.and_eq_true] at h
    simp only [Argument.asBytes, bufTypeInfoNameUnit_eq e ⟨_, coding, vari, trai⟩ _ _ _ h.1 h.2]
    obtain ⟨h1, -⟩ := optText_inv h.1
    obtain ⟨h2, -⟩ := optText_inv h.2
    rw [h1] at h2
    cases name <;> cases unit <;> cases h2 <;>
      simp only [Argument.len, nameUnitBytes, fixedPointBytes, optBytes, textBytes, TypeInfo.asBytes,
        TYPE_INFO_LENGTH, putSignedValue, putUnsignedValue, putFloatValue,
        Argument.fixedPointCapacity, FixedPointValue.width, TypeLength.bytes, FloatWidth.bytes,
        List.length_append, List.length_cons, List.length_nil, Endian.length_bytes] <;>
      omega

/-- the sum of the reported lengths is the length of a verbose payload -/
theorem C15_payload_len (args : List Argument) (h : args.all Argument.wf = true) (e : Endian) :
    (args.map Argument.len).sum = (PayloadContent.asBytes e (.verbose args)).length := by
  induction args with
  | nil => rfl
  | cons a as ih =>
    simp only [List.all_cons, Bool.and_eq_true] at h
    have := ih h.2
    simp only [PayloadContent.asBytes, List.map_cons, List.sum_cons, List.flatten_cons,
      List.length_append] at this ⊢
    rw [this, C15_len a h.1 e]

/-- A configuration accepted by the property: the ids are id fields, the version fits its
    3 bits, the payload kind agrees with the extended-header information (network trace <->
    network-trace type, control <-> control type, no extended header -> non-verbose), at most
    255 arguments, every argument well-formed, and the whole message fits the length field. -/
def MessageConfig.wf (c : MessageConfig) : Bool :=
  decide (c.version.toNat < 8)
  && (match c.ecuId with | some id => idOk id | none => true)
  && (match c.extendedHeaderInfo with
      | some x => idOk x.appId && idOk x.contextId && x.messageType.canonical
      | none => true)
  && (match c.payload, c.extendedHeaderInfo with
      | .verbose args, some x =>
        decide (args.length ≤ 255) && !x.messageType.isNetworkTrace && args.all Argument.wf
      | .networkTrace slices, some x =>
        decide (slices.length ≤ 255) && x.messageType.isNetworkTrace
          && slices.all (fun s => decide (s.length ≤ 65535))
      | .controlMsg t _, some x => x.messageType.isControl && t.canonicalValue
      | .nonVerbose _ _, some x => !x.messageType.isControl
      | .nonVerbose _ _, none => true
      | _, none => false)
  && decide (HEADER_MIN_LENGTH
      + (if c.ecuId.isSome then 4 else 0) + (if c.sessionId.isSome then 4 else 0)
      + (if c.timestamp.isSome then 4 else 0)
      + (if c.extendedHeaderInfo.isSome then EXTENDED_HEADER_LENGTH else 0)
      + (c.payload.asBytes c.endianness).length ≤ 65535)

theorem MessageConfig.wf_payload_lt (c : MessageConfig) (h : c.wf = true) :
    (c.payload.asBytes c.endianness).length < 65536 := by
  simp only [MessageConfig.wf, Bool.and_eq_true, decide_eq_true_eq] at h
  exact Nat.lt_succ_of_le (Nat.le_trans (Nat.le_add_left _ _) h.2)

/-- `Message::new`: the recorded payload length is the length of the serialised payload, the
    verbose flag and argument count are what the payload kind requires, and the message is
    well-formed (so it is in the domain of C01 and parses back to an equal message). -/
theorem C15_new (c : MessageConfig) (sh : Option StorageHeader) (h : c.wf = true)
    (hsh : ∀ s, sh = some s → idOk s.ecuId = true) :
    (Message.new c sh).header.payloadLength.toNat
      = ((Message.new c sh).payload.asBytes (Message.new c sh).header.endianness).length
    ∧ (∀ eh, (Message.new c sh).extendedHeader = some eh →
        eh.verbose = c.payload.isVerbose ∧
        eh.argumentCount.toNat = (match c.payload with
          | .verbose args => args.length | .networkTrace s => s.length | _ => 0))
    ∧ (Message.new c sh).wf = true := by
  have hpl : (BitVec.ofNat 16 (c.payload.asBytes c.endianness).length).toNat
      = (c.payload.asBytes c.endianness).length := by
    have := MessageConfig.wf_payload_lt c h
    simp only [BitVec.toNat_ofNat]; omega
  -- at most 255 arguments: the count survives the 8-bit field
  have hcnt : ∀ n, n ≤ 255 → (BitVec.ofNat 8 n).toNat = n := fun n hn => by
    simp only [BitVec.toNat_ofNat]; omega
  simp only [MessageConfig.wf, Bool.and_eq_true, decide_eq_true_eq] at h
  obtain ⟨⟨⟨⟨hv, hecu⟩, hx⟩, hp⟩, htot⟩ := h
  refine ⟨hpl, ?_, ?_⟩
  · intro eh heh
    obtain ⟨x, hxi, rfl⟩ := Option.map_eq_some_iff.mp heh
    rw [hxi] at hp
    refine ⟨rfl, ?_⟩
    clear htot hx hecu hpl
    rcases hpay : c.payload with args | ⟨id, p⟩ | ⟨t, p⟩ | slices <;> rw [hpay] at hp <;>
      simp_all [PayloadContent.argCount]
  · refine (Message.wf_iff _).2 ⟨hsh, hv, fun id hi => ?_, Option.isSome_map.symm, fun eh heh => ?_,
      ?_, hpl, ?_⟩
    · rw [show c.ecuId = some id from hi] at hecu
      exact hecu
    · obtain ⟨x, hxi, rfl⟩ := Option.map_eq_some_iff.mp heh
      rw [hxi] at hx
      exact hx
    · simp only [Message.new]
      clear htot hx hecu hpl hv hsh
      rcases hxi : c.extendedHeaderInfo with _ | x <;>
        rcases hpay : c.payload with args | ⟨id, p⟩ | ⟨t, p⟩ | slices <;> rw [hxi, hpay] at hp <;>
        simp_all [payloadConsistent, PayloadContent.isVerbose, PayloadContent.argCount]
    · simp only [StandardHeader.overallLengthNat, Message.new, hpl]
      exact htot

/-- the two length claims for ANY configuration that fits the 16-bit length field — also one
    whose verbose arguments are not well-typed (a value of another kind than the type info
    says, missing name / unit / fixed-point parts), for which nothing else of C15 can hold:
    the recorded payload length is the length of the serialised payload, and the reported byte
    length is the length of the serialisation without storage header.  (Ids of more than 4
    bytes are written in full by the crate and are excluded.) -/
theorem C15_new_lengths (c : MessageConfig) (sh : Option StorageHeader)
    (hecu : ∀ id, c.ecuId = some id → id.length ≤ 4)
    (hx : ∀ x, c.extendedHeaderInfo = some x → x.appId.length ≤ 4 ∧ x.contextId.length ≤ 4)
    (hfit : HEADER_MIN_LENGTH
      + (if c.ecuId.isSome then 4 else 0) + (if c.sessionId.isSome then 4 else 0)
      + (if c.timestamp.isSome then 4 else 0)
      + (if c.extendedHeaderInfo.isSome then EXTENDED_HEADER_LENGTH else 0)
      + (c.payload.asBytes c.endianness).length ≤ 65535) :
    (Message.new c sh).header.payloadLength.toNat
      = ((Message.new c sh).payload.asBytes (Message.new c sh).header.endianness).length
    ∧ (Message.new c sh).byteLen
      = ({ Message.new c sh with storageHeader := none } : Message).asBytes.length := by
  have hpl : (BitVec.ofNat 16 (c.payload.asBytes c.endianness).length).toNat
      = (c.payload.asBytes c.endianness).length := by
    have := Nat.le_trans (Nat.le_add_left _ _) hfit
    rw [BitVec.toNat_ofNat]; exact Nat.mod_eq_of_lt (Nat.lt_succ_of_le this)
  refine ⟨hpl, (Message.new c sh).byteLen_eq hecu ?_ Option.isSome_map.symm hpl ?_⟩
  · intro eh he
    obtain ⟨x, hx1, rfl⟩ := Option.map_eq_some_iff.mp he
    exact hx x hx1
  · simp only [StandardHeader.overallLengthNat, Message.new, hpl]
    exact hfit

/-- a message built by `Message::new` parses back to an equal message, consuming exactly its
    serialisation (C01 on the well-formed result) -/
theorem C15_new_parses_back (c : MessageConfig) (sh : Option StorageHeader) (h : c.wf = true)
    (hsh : ∀ s, sh = some s → idOk s.ecuId = true) (sfx : Bytes) :
    dltMessage ((Message.new c sh).asBytes ++ sfx) none sh.isSome
      = .ok (.item (Message.new c sh), sfx) :=
  (C01_roundtrip (Message.new c sh) (C15_new c sh h hsh).2.2 sfx).2

/-- the reported byte length is the length of the serialisation without storage header -/
theorem C15_byte_len (m : Message) (h : m.wf = true) :
    m.byteLen = ({ m with storageHeader := none } : Message).asBytes.length := by
  obtain ⟨_, _, _, hext, _, _, hpl, htot⟩ := (Message.wf_iff m).1 h
  exact m.byteLen_eq (m.wf_id_lengths h).1 (m.wf_id_lengths h).2 hext hpl htot

/-- adding a storage header only prepends 16 bytes carrying the given time and the header
    ECU id (or the default id); everything else is unchanged -/
theorem C15_storage (m : Message) (ts : DltTimeStamp)
    (hecu : ∀ id, m.header.ecuId = some id → id.length ≤ 4) :
    (m.addStorageHeader ts).asBytes
      = (DLT_PATTERN ++ bytesLE 4 ts.seconds.toNat ++ bytesLE 4 ts.microseconds.toNat
          ++ putZeroTerminatedString (m.header.ecuId.getD DEFAULT_ECU_ID) 4)
        ++ ({ m with storageHeader := none } : Message).asBytes
    ∧ (DLT_PATTERN ++ bytesLE 4 ts.seconds.toNat ++ bytesLE 4 ts.microseconds.toNat
          ++ putZeroTerminatedString (m.header.ecuId.getD DEFAULT_ECU_ID) 4).length = 16
    ∧ (m.addStorageHeader ts).header = m.header
    ∧ (m.addStorageHeader ts).extendedHeader = m.extendedHeader
    ∧ (m.addStorageHeader ts).payload = m.payload := by
  refine ⟨?_, ?_, rfl, rfl, rfl⟩
  · simp only [Message.addStorageHeader, Message.asBytes, StorageHeader.asBytes, List.append_assoc,
      List.nil_append]
  · have hl : (m.header.ecuId.getD DEFAULT_ECU_ID).length ≤ 4 := by
      rcases he : m.header.ecuId with _ | id
      · simp [DEFAULT_ECU_ID]
      · simpa using hecu id he
    simp only [List.length_append, length_bytesLE, length_putZeroTerminatedString _ _ hl, DLT_PATTERN,
      List.length_cons, List.length_nil]

/-- an argument typed bool or 32/64-bit float that carries a value of another kind fails the
    validity check (and one carrying the right kind passes) -/
theorem C15_valid (a : Argument) :
    (a.typeInfo.kind = .bool → (a.valid = true ↔ ∃ x, a.value = .bool x))
    ∧ (a.typeInfo.kind = .float .w32 → (a.valid = true ↔ ∃ x, a.value = .f32 x))
    ∧ (a.typeInfo.kind = .float .w64 → (a.valid = true ↔ ∃ x, a.value = .f64 x)) := by
  refine ⟨?_, ?_, ?_⟩ <;> intro hk <;> simp only [Argument.valid, hk] <;>
    cases a.value <;> simp

/-- non-vacuity: a configuration with a network-trace payload and all optional fields -/
example : (Message.new
    { version := 1#8, counter := 3#8, endianness := .big, ecuId := none, sessionId := some 1#32,
      timestamp := none, payload := .networkTrace [[1#8, 2#8], []],
      extendedHeaderInfo := some { messageType := .networkTrace .can, appId := [], contextId := [] } }
    none).extendedHeader.map (fun e => (e.verbose, e.argumentCount)) = some (true, 2#8) := by
  decide

end Dlt
