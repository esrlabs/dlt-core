/-
  C17 — timestamps built from milliseconds or microseconds denote the same instant.

  Model: `Dlt.fromMs`, `Dlt.fromUs` (Model/Time.lean): `u64` inputs, truncating
  `as u32` casts, overflow-checked `u32` multiplication (`none` = panic).
-/
import DltVerif.Model.Time

namespace Dlt

/-- `from_ms` on any `u64`: the sub-second part never overflows, the seconds wrap at `2^32` -/
theorem fromMs_eq (ms : Nat) : fromMs ms = some (ms / 1000 % 2 ^ 32, ms % 1000 * 1000) := by
  have h1 : ms % 1000 < 1000 := Nat.mod_lt _ (by decide)
  have h2 : ms % 1000 % 2 ^ 32 = ms % 1000 := Nat.mod_eq_of_lt (Nat.lt_trans h1 (by decide))
  have h3 : ms % 1000 * 1000 < 2 ^ 32 := by omega
  simp only [fromMs, checkedMulU32, asU32, h2, h3, if_true]

theorem fromUs_eq (us : Nat) : fromUs us = some (us / 1000000 % 2 ^ 32, us % 1000000) := by
  have h1 : us % 1000000 < 1000000 := Nat.mod_lt _ (by decide)
  have h2 : us % 1000000 % 2 ^ 32 = us % 1000000 := Nat.mod_eq_of_lt (Nat.lt_trans h1 (by decide))
  simp only [fromUs, asU32, Nat.reduceMul, h2]

/-- For every millisecond count whose whole seconds fit in 32 bits, `from_ms` does not
    panic and `seconds * 10^6 + microseconds = ms * 1000`, `microseconds < 10^6`. -/
theorem C17_ms (ms : Nat) (h : ms / 1000 < 2 ^ 32) :
    ∃ s u, fromMs ms = some (s, u) ∧ s * 1000000 + u = ms * 1000 ∧ u < 1000000
      ∧ s < 2 ^ 32 ∧ u < 2 ^ 32 := by
  refine ⟨_, _, fromMs_eq ms, ?_⟩
  rw [Nat.mod_eq_of_lt h]
  omega

/-- For every microsecond count whose whole seconds fit in 32 bits, `from_us` does not
    panic and `seconds * 10^6 + microseconds = us`, `microseconds < 10^6`. -/
theorem C17_us (us : Nat) (h : us / 1000000 < 2 ^ 32) :
    ∃ s u, fromUs us = some (s, u) ∧ s * 1000000 + u = us ∧ u < 1000000
      ∧ s < 2 ^ 32 ∧ u < 2 ^ 32 := by
  refine ⟨_, _, fromUs_eq us, ?_⟩
  rw [Nat.mod_eq_of_lt h]
  omega

/-- `from_ms` never panics, on any `u64` whatsoever (outside the domain the seconds wrap). -/
theorem C17_ms_nopanic (ms : Nat) : fromMs ms ≠ none := by
  rw [fromMs_eq]
  exact Option.some_ne_none _

theorem C17_us_nopanic (us : Nat) : fromUs us ≠ none := by simp [fromUs]

-- the hypotheses are inhabited by non-trivial values (sub-second part non-zero, top of the domain)
example : fromMs 4294967295999 = some (4294967295, 999000) := by decide
example : fromUs 1000123 = some (1, 123) := by decide
example : (4294967295999999 : Nat) / 1000000 < 2 ^ 32 := by decide

end Dlt
