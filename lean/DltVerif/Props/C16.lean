/-
  C16 — re-serialising any parsed message is stable: it parses back to the same message.
-/
import DltVerif.Lemmas.ParserImage

namespace Dlt

/-- For EVERY byte string from which the parser returns a message: if the re-serialisation
    of that message has the length its own header declares, then parsing the re-serialisation
    returns the identical message with nothing left over — hence serialising again reproduces
    the same bytes. -/
theorem C16_stable (bs : Bytes) (w : Bool) (m : Message) (r : Bytes)
    (h : dltMessage bs none w = .ok (.item m, r))
    (hlen : m.asBytes.length = (if w then 16 else 0) + m.header.overallLength) :
    dltMessage m.asBytes none w = .ok (.item m, []) := by
  obtain ⟨hwf, hs⟩ := parsed_wf_of_length bs none w m r (PRes.toResult_eq_ok_iff.1 h) hlen
  have hrt := dltMessageIntern_asBytes m hwf []
  rw [List.append_nil, hs] at hrt
  unfold dltMessage
  rw [hrt]
  rfl

/-- the parser never returns a message value the writer cannot represent: the returned
    message is well-formed whenever the lengths agree -/
theorem C16_image_wf (bs : Bytes) (w : Bool) (m : Message) (r : Bytes)
    (h : dltMessage bs none w = .ok (.item m, r))
    (hlen : m.asBytes.length = (if w then 16 else 0) + m.header.overallLength) :
    m.wf = true :=
  (parsed_wf_of_length bs none w m r (PRes.toResult_eq_ok_iff.1 h) hlen).1

end Dlt
