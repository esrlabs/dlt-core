/-
  nom 7.1.3 streaming primitives, as used by src/parse.rs, modelled from nom's
  source: every primitive returns `Incomplete(Needed)` instead of indexing past
  the end; `Needed::new 0 = Unknown`.

  `PRes α` is `IResult<&[u8], α, DltParseError>` with the error text dropped and
  one extra outcome, `panic`, produced by every operation that can panic in Rust
  (checked subtraction, slicing) so that "never panics" is a statement about the
  model.
-/
import DltVerif.Model.Utf8

namespace Dlt

inductive PRes (α : Type) where
  | ok (v : α) (rest : Bytes)
  /-- `nom::Err::Incomplete(Needed::Size n)` (`some n`, n ≥ 1) or `Needed::Unknown` (`none`) -/
  | incomplete (needed : Option Nat)
  /-- `nom::Err::Error(_)` -/
  | error
  /-- `nom::Err::Failure(_)` -/
  | failure
  | panic
  deriving Repr, DecidableEq

namespace PRes

/-- sequential composition: what `?` and `tuple` do -/
@[inline] def andThen {α β : Type} (r : PRes α) (f : α → Bytes → PRes β) : PRes β :=
  match r with
  | ok v rest => f v rest
  | incomplete n => incomplete n
  | error => error
  | failure => failure
  | panic => panic

@[inline] def map {α β : Type} (f : α → β) (r : PRes α) : PRes β :=
  match r with
  | ok v rest => ok (f v) rest
  | incomplete n => incomplete n
  | error => error
  | failure => failure
  | panic => panic

@[simp] theorem andThen_ok {α β : Type} (v : α) (r : Bytes) (f : α → Bytes → PRes β) :
    (ok v r).andThen f = f v r := rfl
@[simp] theorem andThen_incomplete {α β : Type} (n) (f : α → Bytes → PRes β) :
    (incomplete n : PRes α).andThen f = incomplete n := rfl
@[simp] theorem andThen_error {α β : Type} (f : α → Bytes → PRes β) :
    (error : PRes α).andThen f = error := rfl
@[simp] theorem andThen_failure {α β : Type} (f : α → Bytes → PRes β) :
    (failure : PRes α).andThen f = failure := rfl
@[simp] theorem andThen_panic {α β : Type} (f : α → Bytes → PRes β) :
    (panic : PRes α).andThen f = panic := rfl
@[simp] theorem map_ok {α β : Type} (f : α → β) (v : α) (r : Bytes) :
    (ok v r).map f = ok (f v) r := rfl
@[simp] theorem map_incomplete {α β : Type} (f : α → β) (n) :
    (incomplete n : PRes α).map f = incomplete n := rfl
@[simp] theorem map_error {α β : Type} (f : α → β) : (error : PRes α).map f = error := rfl
@[simp] theorem map_failure {α β : Type} (f : α → β) : (failure : PRes α).map f = failure := rfl
@[simp] theorem map_panic {α β : Type} (f : α → β) : (panic : PRes α).map f = panic := rfl

end PRes

/-- `Needed::new n` -/
@[inline] def needed (n : Nat) : Option Nat := if n = 0 then none else some n

/-- `nom::bytes::streaming::take(n)` -/
def take (n : Nat) (i : Bytes) : PRes Bytes :=
  if i.length < n then .incomplete (needed (n - i.length))
  else .ok (i.take n) (i.drop n)

/-- `nom::bytes::streaming::tag(t)`: compare the common prefix first, then the length -/
def tag (t : Bytes) (i : Bytes) : PRes Bytes :=
  if i.take t.length != t.take i.length then .error
  else if i.length < t.length then .incomplete (needed (t.length - i.length))
  else .ok (i.take t.length) (i.drop t.length)

/-- `nom::number::streaming::{le,be}_uN` for N = 8*k, as a natural number -/
def uintN (e : Endian) (k : Nat) (i : Bytes) : PRes Nat :=
  if i.length < k then .incomplete (needed (k - i.length))
  else .ok (e.value (i.take k)) (i.drop k)

/-- typed: the `N`-bit pattern read (signed and float readers return the same bits) -/
def bitsN (e : Endian) (k : Nat) (i : Bytes) : PRes (BitVec (8 * k)) :=
  (uintN e k i).map (BitVec.ofNat (8 * k))

/-- `nom::number::streaming::be_u8` -/
def beU8 (i : Bytes) : PRes (BitVec 8) :=
  match i with
  | [] => .incomplete (needed 1)
  | b :: r => .ok b r

/-- `nom::number::complete::be_u8` -/
def beU8Complete (i : Bytes) : PRes (BitVec 8) :=
  match i with
  | [] => .error
  | b :: r => .ok b r

@[inline] def isNul (b : BitVec 8) : Bool := b == 0#8

/-- `take_while_m_n(0, n, is_not_null)` streaming: `position` scans the whole input -/
def takeWhileNotNul (n : Nat) (i : Bytes) : PRes Bytes :=
  match firstIdx isNul i with
  | some idx =>
    let k := if idx ≤ n then idx else n
    .ok (i.take k) (i.drop k)
  | none =>
    if i.length ≥ n then .ok (i.take n) (i.drop n)
    else .incomplete (needed 1)

/-- `dlt_zero_terminated_string_intern(s, size)`; `size - content.len()` is a checked
    subtraction in Rust -/
def zts (size : Nat) (s : Bytes) : PRes Bytes :=
  (takeWhileNotNul size s).andThen fun content restWithNull =>
    if size < content.length then .panic
    else
      let missing := size - content.length
      (take missing restWithNull).andThen fun _ rest =>
        .ok (Utf8.validPrefix content) rest

/-- `nom::multi::count(f, n)`: `Error` stays `Error` (append keeps the inner error),
    `Incomplete` and `Failure` pass through -/
def count {α : Type} (f : Bytes → PRes α) : Nat → Bytes → PRes (List α)
  | 0, i => .ok [] i
  | n + 1, i =>
    (f i).andThen fun v r =>
      (count f n r).map (v :: ·)

end Dlt
