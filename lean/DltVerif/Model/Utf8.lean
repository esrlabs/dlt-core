/-
  UTF-8 recogniser: what `core::str::from_utf8` accepts (Unicode Table 3-7,
  "well-formed UTF-8 byte sequences") and what `Utf8Error::valid_up_to` reports.
-/
import DltVerif.Model.Bytes

namespace Dlt.Utf8

@[inline] def inR (lo hi : Nat) (b : BitVec 8) : Bool := lo ≤ b.toNat && b.toNat ≤ hi

@[inline] def cont (b : BitVec 8) : Bool := inR 0x80 0xBF b

/-- Length (1..4) of the well-formed scalar encoding at the head of the input,
    or 0 when the input does not start with one (including truncated ones). -/
def scalarLen : Bytes → Nat
  | [] => 0
  | b0 :: t =>
    if b0.toNat < 0x80 then 1
    else if inR 0xC2 0xDF b0 then
      match t with
      | b1 :: _ => if cont b1 then 2 else 0
      | _ => 0
    else if inR 0xE0 0xEF b0 then
      match t with
      | b1 :: b2 :: _ =>
        let ok1 :=
          if b0.toNat = 0xE0 then inR 0xA0 0xBF b1
          else if b0.toNat = 0xED then inR 0x80 0x9F b1
          else cont b1
        if ok1 && cont b2 then 3 else 0
      | _ => 0
    else if inR 0xF0 0xF4 b0 then
      match t with
      | b1 :: b2 :: b3 :: _ =>
        let ok1 :=
          if b0.toNat = 0xF0 then inR 0x90 0xBF b1
          else if b0.toNat = 0xF4 then inR 0x80 0x8F b1
          else cont b1
        if ok1 && cont b2 && cont b3 then 4 else 0
      | _ => 0
    else 0

theorem scalarLen_le (bs : Bytes) : scalarLen bs ≤ bs.length := by
  fun_cases scalarLen bs <;> simp

/-- `valid_up_to`: length of the longest prefix made of complete well-formed scalars. -/
def validUpTo (bs : Bytes) : Nat :=
  if _h : scalarLen bs = 0 then 0
  else scalarLen bs + validUpTo (bs.drop (scalarLen bs))
termination_by bs.length
decreasing_by
  have := scalarLen_le bs
  simp only [List.length_drop]
  omega

/-- `str::from_utf8(bs).is_ok()` -/
def valid (bs : Bytes) : Bool := validUpTo bs == bs.length

/-- the salvage in `dlt_zero_terminated_string`: the whole input when valid,
    otherwise `split_at(valid_up_to).0` -/
def validPrefix (bs : Bytes) : Bytes := bs.take (validUpTo bs)

end Dlt.Utf8
