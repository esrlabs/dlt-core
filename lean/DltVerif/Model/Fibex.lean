/-
  FIBEX loading (src/fibex/mod.rs).

  Input abstraction: quick-xml 0.29's tokenizer is trusted; a file is the list of results of
  its successive `read_event_into` calls (`XmlEv`), followed by `Eof` forever.  Element
  names are reduced to the vocabulary the reader matches on (`Tag`, by exact comparison of
  the local name — done by the harness that dumps the events); attribute keys, attribute
  values and text are bytes (or `none` where unescaping fails).

  L1: `Reader::read_event` (XML events -> FIBEX events, with the carried fields reset exactly
  where the code resets them).  L2: `read_pdu`, `read_frame`, `read_fibexes`,
  `type_info_for_signal_ref`, `extract_metadata`.  `HashMap`s are association lists.
  Every loop is structural recursion on the event list: there is no way to loop forever.
-/
import DltVerif.Model.Types
import DltVerif.Model.FibexNames

namespace Dlt.Fibex

inductive Tag where
  | PDU | SHORT_NAME | BYTE_LENGTH | SIGNAL_INSTANCE | SEQUENCE_NUMBER | SIGNAL_REF | PDU_TYPE
  | FRAME_TYPE | FRAME | PDU_INSTANCE | PDU_REF | MANUFACTURER_EXTENSION | APPLICATION_ID
  | CONTEXT_ID | MESSAGE_INFO | MESSAGE_TYPE | DESC | CODING | SIGNAL | CODED_TYPE | CODING_REF
  | other
  deriving DecidableEq, Repr

inductive Attr where
  /-- `Ok(attribute)`: key bytes and `unescape_value()` (`none` = error) -/
  | ok (key : Bytes) (value : Option Bytes)
  /-- `Err(AttrError)` -/
  | err
  deriving DecidableEq, Repr

inductive XmlEv where
  | start (tag : Tag) (attrs : List Attr)
  | empty (tag : Tag) (attrs : List Attr)
  | end_ (tag : Tag)
  /-- `Text`: `unescape()` result (`none` = error) -/
  | text (t : Option Bytes)
  /-- CData, Comment, Decl, PI, DocType -/
  | other
  /-- `read_event_into` returned `Err` -/
  | err
  deriving DecidableEq, Repr

/-- FIBEX events (`Event`) -/
inductive Event where
  | pduStart (id : Bytes)
  | pduEnd (shortName description : Option Bytes) (byteLength : Nat)
  | signalInstance (id : Bytes) (sequenceNumber : Nat) (signalRef : Bytes)
  | frameStart (id : Bytes)
  | frameEnd (shortName : Bytes) (byteLength : Nat)
  | manufacturerExtension (messageType messageInfo applicationId contextId : Option Bytes)
  | pduInstance (id pduRef : Bytes) (sequenceNumber : Nat)
  | signal (id codingRef : Bytes)
  | coding (id baseDataType : Bytes)
  | eof
  deriving DecidableEq, Repr

/-- the fields `Reader` carries between events -/
structure RState where
  shortName : Option Bytes := none
  description : Option Bytes := none
  byteLength : Option Nat := none
  id : Option Bytes := none
  sequenceNumber : Option Nat := none
  ref : Option Bytes := none
  applicationId : Option Bytes := none
  contextId : Option Bytes := none
  messageType : Option Bytes := none
  messageInfo : Option Bytes := none
  baseDataType : Option Bytes := none
  deriving DecidableEq, Repr

/-- key match of `attr_opt`: equal, or `<prefix>:<name>`; `attr_key[key_len - name_len - 1]`
    is a checked index (`none` = out of bounds = panic) -/
def keyMatches (key name : Bytes) : Option Bool :=
  if key = name then some true
  else if key.length > name.length then
    match key[key.length - name.length - 1]? with
    | none => none
    | some c => some (c == 0x3A#8 && key.drop (key.length - name.length) == name)
  else some false

/-- outcome of the fallible steps: `err` = `Err(_)`, `panic` = index out of bounds -/
inductive Res (α : Type) where
  | ok (v : α)
  | err
  | panic
  deriving DecidableEq, Repr

/-- `attr_opt(attrs, name)` -/
def attrOpt (name : Bytes) : List Attr → Res (Option Bytes)
  | [] => .ok none
  | .err :: _ => .err
  | .ok key value :: rest =>
    match keyMatches key name with
    | none => .panic
    | some true => (match value with | some v => .ok (some v) | none => .err)
    | some false => attrOpt name rest

/-- `attr(e, name, tag)`: a missing attribute is an error -/
def attrReq (name : Bytes) (attrs : List Attr) : Res Bytes :=
  match attrOpt name attrs with
  | .ok (some v) => .ok v
  | .ok none => .err
  | .err => .err
  | .panic => .panic

/-- `str::parse::<usize>`: optional `+`, at least one ASCII digit, below 2^64 -/
def parseDigits : Bytes → Nat → Option Nat
  | [], acc => some acc
  | c :: cs, acc =>
    if 0x30 ≤ c.toNat ∧ c.toNat ≤ 0x39 then
      let acc' := acc * 10 + (c.toNat - 0x30)
      if acc' < 2 ^ 64 then parseDigits cs acc' else none
    else none

def parseUsize (t : Bytes) : Option Nat :=
  match t with
  | [] => none
  | c :: cs =>
    if c = 0x2B#8 then (match cs with | [] => none | _ => parseDigits cs 0)
    else parseDigits (c :: cs) 0

/-- `read_text`: the next event must be a `Text` whose unescaping succeeds; the event is
    consumed in every case (also at end of input, where `Eof` is not a text) -/
def readText : List XmlEv → Option Bytes × List XmlEv
  | .text (some t) :: rest => (some t, rest)
  | _ :: rest => (none, rest)
  | [] => (none, [])

theorem readText_length (evs : List XmlEv) : (readText evs).2.length ≤ evs.length := by
  unfold readText
  split <;> simp

/-- `Reader::read_event`: loop over XML events until a FIBEX event is complete.
    Result: the event (`ok`), an error, or a panic; the reader state; what is left. -/
def readEvent (st : RState) : List XmlEv → Res Event × RState × List XmlEv
  | [] => (.ok .eof, st, [])
  | .err :: rest => (.err, st, rest)
  | .other :: rest => readEvent st rest
  | .text _ :: rest => readEvent st rest
  | .start tag attrs :: rest =>
    match tag with
    | .PDU =>
      let st := { st with shortName := none, byteLength := none, description := none }
      (match attrReq B_ID attrs with
       | .ok id => (.ok (.pduStart id), st, rest)
       | .err => (.err, st, rest)
       | .panic => (.panic, st, rest))
    | .SHORT_NAME =>
      (match hr : readText rest with
       | (some t, rest') => readEvent { st with shortName := some t } rest'
       | (none, rest') => (.err, st, rest'))
    | .BYTE_LENGTH =>
      (match hr : readText rest with
       | (some t, rest') =>
         (match parseUsize t with
          | some n => readEvent { st with byteLength := some n } rest'
          | none => (.err, st, rest'))
       | (none, rest') => (.err, st, rest'))
    | .SIGNAL_INSTANCE | .PDU_INSTANCE =>
      (match attrReq B_ID attrs with
       | .ok id => readEvent { st with id := some id, ref := none, sequenceNumber := none } rest
       | .err => (.err, st, rest)
       | .panic => (.panic, st, rest))
    | .SEQUENCE_NUMBER =>
      (match hr : readText rest with
       | (some t, rest') =>
         (match parseUsize t with
          | some n => readEvent { st with sequenceNumber := some n } rest'
          | none => (.err, st, rest'))
       | (none, rest') => (.err, st, rest'))
    | .SIGNAL_REF | .PDU_REF =>
      (match attrReq B_ID_REF attrs with
       | .ok r => readEvent { st with ref := some r } rest
       | .err => (.err, st, rest)
       | .panic => (.panic, st, rest))
    | .PDU_TYPE | .FRAME_TYPE =>
      (match hr : readText rest with
       | (some _, rest') => readEvent st rest'
       | (none, rest') => (.err, st, rest'))
    | .FRAME =>
      let st := { st with shortName := none, byteLength := none }
      (match attrReq B_ID attrs with
       | .ok id => (.ok (.frameStart id), st, rest)
       | .err => (.err, st, rest)
       | .panic => (.panic, st, rest))
    | .MANUFACTURER_EXTENSION =>
      readEvent { st with applicationId := none, contextId := none, messageInfo := none,
                          messageType := none } rest
    | .APPLICATION_ID =>
      (match hr : readText rest with
       | (some t, rest') => readEvent { st with applicationId := some t } rest'
       | (none, rest') => (.err, st, rest'))
    | .CONTEXT_ID =>
      (match hr : readText rest with
       | (some t, rest') => readEvent { st with contextId := some t } rest'
       | (none, rest') => (.err, st, rest'))
    | .MESSAGE_INFO =>
      (match hr : readText rest with
       | (some t, rest') => readEvent { st with messageInfo := some t } rest'
       | (none, rest') => (.err, st, rest'))
    | .MESSAGE_TYPE =>
      (match hr : readText rest with
       | (some t, rest') => readEvent { st with messageType := some t } rest'
       | (none, rest') => (.err, st, rest'))
    | .DESC =>
      -- `.ok()`: a failing read_text is swallowed (the event it looked at is consumed)
      (match hr : readText rest with
       | (t, rest') => readEvent { st with description := t } rest')
    | .CODING =>
      (match attrReq B_ID attrs with
       | .ok id => readEvent { st with id := some id, baseDataType := none } rest
       | .err => (.err, st, rest)
       | .panic => (.panic, st, rest))
    | .SIGNAL =>
      (match attrReq B_ID attrs with
       | .ok id => readEvent { st with id := some id, ref := none } rest
       | .err => (.err, st, rest)
       | .panic => (.panic, st, rest))
    | .CODED_TYPE =>
      (match attrReq B_BASE_DATA_TYPE attrs with
       | .ok v => readEvent { st with baseDataType := some v } rest
       | .err => readEvent { st with baseDataType := none } rest
       | .panic => (.panic, st, rest))
    | _ => readEvent st rest
  | .empty tag attrs :: rest =>
    match tag with
    | .SIGNAL_REF | .PDU_REF | .CODING_REF =>
      (match attrReq B_ID_REF attrs with
       | .ok r => readEvent { st with ref := some r } rest
       | .err => (.err, st, rest)
       | .panic => (.panic, st, rest))
    | .CODED_TYPE =>
      (match attrReq B_BASE_DATA_TYPE attrs with
       | .ok v => readEvent { st with baseDataType := some v } rest
       | .err => readEvent { st with baseDataType := none } rest
       | .panic => (.panic, st, rest))
    | _ => readEvent st rest
  | .end_ tag :: rest =>
    match tag with
    | .PDU =>
      let st' := { st with shortName := none, description := none, byteLength := none }
      (match st.byteLength with
       | some n => (.ok (.pduEnd st.shortName st.description n), st', rest)
       | none => (.err, st', rest))
    | .SIGNAL_INSTANCE =>
      (match st.id, st.sequenceNumber, st.ref with
       | some id, some sn, some r =>
         (.ok (.signalInstance id sn r), { st with id := none, sequenceNumber := none, ref := none }, rest)
       | _, _, _ => (.err, st, rest))
    | .FRAME =>
      (match st.shortName, st.byteLength with
       | some sn, some n => (.ok (.frameEnd sn n), { st with shortName := none, byteLength := none }, rest)
       | _, _ => (.err, st, rest))
    | .PDU_INSTANCE =>
      (match st.id, st.sequenceNumber, st.ref with
       | some id, some sn, some r =>
         (.ok (.pduInstance id r sn), { st with id := none, sequenceNumber := none, ref := none }, rest)
       | _, _, _ => (.err, st, rest))
    | .MANUFACTURER_EXTENSION =>
      (.ok (.manufacturerExtension st.messageType st.messageInfo st.applicationId st.contextId),
       { st with applicationId := none, contextId := none, messageType := none, messageInfo := none },
       rest)
    | .SIGNAL =>
      (match st.id, st.ref with
       | some id, some r => (.ok (.signal id r), { st with id := none, ref := none }, rest)
       | _, _ => (.err, st, rest))
    | .CODING =>
      (match st.id, st.baseDataType with
       | some id, some b => (.ok (.coding id b), { st with id := none, baseDataType := none }, rest)
       | _, _ => (.err, st, rest))
    | _ => readEvent st rest
termination_by evs => evs.length
decreasing_by
  all_goals simp_wf
  all_goals first
    | omega
    | (have hlen := readText_length rest
       rw [hr] at hlen
       simp only at hlen
       omega)

/-- every `read_event` call consumes at least one XML event (or the input is exhausted) -/
theorem readEvent_progress (st : RState) (evs : List XmlEv) :
    (readEvent st evs).2.2.length ≤ evs.length - 1 := by
  fun_induction readEvent st evs
  all_goals simp only [List.length_cons, List.length_nil, Nat.add_sub_cancel, Nat.le_refl]
  -- what is left: a further call on the rest (induction hypothesis), `read_text` in front of it, or both
  all_goals first
    | exact Nat.le_trans ‹_› (Nat.sub_le ..)
    | exact (‹readText _ = _› ▸ readText_length _ :)
    | exact Nat.le_trans ‹_› (Nat.le_trans (Nat.sub_le ..) (‹readText _ = _› ▸ readText_length _ :))

theorem readEvent_lt {st st' : RState} {evs evs' : List XmlEv} {r : Res Event}
    (h : readEvent st evs = (r, st', evs')) (hne : r ≠ .ok .eof) : evs'.length < evs.length := by
  have hp := readEvent_progress st evs
  rw [h] at hp
  cases evs with
  | nil => simp [readEvent] at h; exact absurd h.1.symm hne
  | cons e es => exact Nat.lt_succ_of_le hp

theorem readEvent_le {st st' : RState} {evs evs' : List XmlEv} {r : Res Event}
    (h : readEvent st evs = (r, st', evs')) : evs'.length ≤ evs.length := by
  have hp := readEvent_progress st evs
  rw [h] at hp
  exact Nat.le_trans hp (Nat.sub_le ..)

-- L2 ---------------------------------------------------------------------------------

/-- stable insertion by key (what `sort_by_key` guarantees: order of equal keys kept) -/
def insertByKey {α : Type} (x : Nat × α) : List (Nat × α) → List (Nat × α)
  | [] => [x]
  | y :: ys => if x.1 ≤ y.1 then x :: y :: ys else y :: insertByKey x ys

def sortByKey {α : Type} : List (Nat × α) → List (Nat × α)
  | [] => []
  | x :: xs => insertByKey x (sortByKey xs)

/-- `read_pdu`: collect signal instances until the PDU ends; end of file inside is an error -/
def readPdu (st : RState) (evs : List XmlEv) (acc : List (Nat × Bytes)) :
    Res (Option Bytes × List Bytes) × RState × List XmlEv :=
  match h : readEvent st evs with
  | (.err, st', evs') => (.err, st', evs')
  | (.panic, st', evs') => (.panic, st', evs')
  | (.ok ev, st', evs') =>
    match ev with
    | .signalInstance _ sn r => readPdu st' evs' (acc ++ [(sn, r)])
    | .pduEnd _ desc _ => (.ok (desc, (sortByKey acc).map (·.2)), st', evs')
    | .eof => (.err, st', evs')
    | .pduStart _ => readPdu st' evs' acc
    | .frameStart _ => readPdu st' evs' acc
    | .frameEnd _ _ => readPdu st' evs' acc
    | .manufacturerExtension _ _ _ _ => readPdu st' evs' acc
    | .pduInstance _ _ _ => readPdu st' evs' acc
    | .signal _ _ => readPdu st' evs' acc
    | .coding _ _ => readPdu st' evs' acc
termination_by evs.length
decreasing_by
  all_goals exact readEvent_lt h (by simp)

structure FrameReadData where
  shortName : Bytes
  contextId : Option Bytes
  applicationId : Option Bytes
  messageType : Option Bytes
  messageInfo : Option Bytes
  pduRefs : List Bytes
  deriving DecidableEq, Repr

/-- the manufacturer-extension fields seen so far in `read_frame` -/
structure FrameExt where
  contextId : Option Bytes := none
  applicationId : Option Bytes := none
  messageType : Option Bytes := none
  messageInfo : Option Bytes := none

/-- `read_frame` -/
def readFrame (st : RState) (evs : List XmlEv) (acc : List (Nat × Bytes)) (ext : FrameExt) :
    Res FrameReadData × RState × List XmlEv :=
  match h : readEvent st evs with
  | (.err, st', evs') => (.err, st', evs')
  | (.panic, st', evs') => (.panic, st', evs')
  | (.ok ev, st', evs') =>
    match ev with
    | .pduInstance _ r sn => readFrame st' evs' (acc ++ [(sn, r)]) ext
    | .manufacturerExtension mt mi app ctx =>
      readFrame st' evs' acc { contextId := ctx, applicationId := app, messageType := mt, messageInfo := mi }
    | .frameEnd sn _ =>
      (.ok { shortName := sn, contextId := ext.contextId, applicationId := ext.applicationId
             messageType := ext.messageType, messageInfo := ext.messageInfo
             pduRefs := (sortByKey acc).map (·.2) }, st', evs')
    | .eof => (.err, st', evs')
    | .pduStart _ => readFrame st' evs' acc ext
    | .pduEnd _ _ _ => readFrame st' evs' acc ext
    | .signalInstance _ _ _ => readFrame st' evs' acc ext
    | .frameStart _ => readFrame st' evs' acc ext
    | .signal _ _ => readFrame st' evs' acc ext
    | .coding _ _ => readFrame st' evs' acc ext
termination_by evs.length
decreasing_by
  all_goals exact readEvent_lt h (by simp)

theorem readPdu_length (st : RState) (evs : List XmlEv) (acc : List (Nat × Bytes)) :
    (readPdu st evs acc).2.2.length ≤ evs.length := by
  fun_induction readPdu st evs acc
  all_goals (have hle := readEvent_le ‹_›; first | exact hle | exact Nat.le_trans ‹_› hle)

theorem readFrame_length (st : RState) (evs : List XmlEv) (acc : List (Nat × Bytes)) (ext : FrameExt) :
    (readFrame st evs acc ext).2.2.length ≤ evs.length := by
  fun_induction readFrame st evs acc ext
  all_goals (have hle := readEvent_le ‹_›; first | exact hle | exact Nat.le_trans ‹_› hle)

/-- `HashMap::insert`: replace the value of an existing key, else add -/
def insertKV (m : List (Bytes × Bytes)) (k v : Bytes) : List (Bytes × Bytes) :=
  if m.any (·.1 == k) then m.map (fun e => if e.1 == k then (k, v) else e) else m ++ [(k, v)]

def lookupKV {α : Type} (m : List (Bytes × α)) (k : Bytes) : Option α :=
  (m.find? (·.1 == k)).map (·.2)

/-- what `read_fibexes` accumulates over all files -/
structure Acc where
  frames : List (Bytes × FrameReadData) := []
  pdus : List (Bytes × (Option Bytes × List Bytes)) := []
  signals : List (Bytes × Bytes) := []
  codings : List (Bytes × Bytes) := []

/-- the event loop of `read_fibexes` for one file -/
def readFile (st : RState) (evs : List XmlEv) (acc : Acc) : Res Acc :=
  match h : readEvent st evs with
  | (.err, _, _) => .err
  | (.panic, _, _) => .panic
  | (.ok ev, st', evs') =>
    match ev with
    | .eof => .ok acc
    | .pduStart id =>
      (match hp : readPdu st' evs' [] with
       | (.ok p, st'', evs'') => readFile st'' evs'' { acc with pdus := acc.pdus ++ [(id, p)] }
       | (.err, _, _) => .err
       | (.panic, _, _) => .panic)
    | .frameStart id =>
      (match hp : readFrame st' evs' [] {} with
       | (.ok f, st'', evs'') => readFile st'' evs'' { acc with frames := acc.frames ++ [(id, f)] }
       | (.err, _, _) => .err
       | (.panic, _, _) => .panic)
    | .signal id codingRef => readFile st' evs' { acc with signals := insertKV acc.signals id codingRef }
    | .coding id base => readFile st' evs' { acc with codings := insertKV acc.codings id base }
    | .pduEnd _ _ _ => readFile st' evs' acc
    | .signalInstance _ _ _ => readFile st' evs' acc
    | .frameEnd _ _ => readFile st' evs' acc
    | .manufacturerExtension _ _ _ _ => readFile st' evs' acc
    | .pduInstance _ _ _ => readFile st' evs' acc
termination_by evs.length
decreasing_by
  all_goals first
    | exact readEvent_lt h (by simp)
    | (have h1 := readEvent_lt h (by simp)
       have h2 := readPdu_length st' evs' []
       rw [hp] at h2
       simp only at h2
       omega)
    | (have h1 := readEvent_lt h (by simp)
       have h2 := readFrame_length st' evs' [] {}
       rw [hp] at h2
       simp only at h2
       omega)

/-- all files in order, a fresh reader per file; `none` = the file cannot be opened -/
def readFiles : List (Option (List XmlEv)) → Acc → Res Acc
  | [], acc => .ok acc
  | none :: _, _ => .err
  | some evs :: rest, acc =>
    match readFile {} evs acc with
    | .ok acc' => readFiles rest acc'
    | .err => .err
    | .panic => .panic

def plainType (k : TypeInfoKind) (c : StringCoding := .ascii) : TypeInfo :=
  { kind := k, coding := c, hasVariableInfo := false, hasTraceInfo := false }

/-- `type_info_for_signal_ref` -/
def typeInfoForSignalRef (ref : Bytes) (signals codings : List (Bytes × Bytes)) : Option TypeInfo :=
  if ref = N_S_BOOL then some (plainType .bool)
  else if ref = N_S_SINT8 then some (plainType (.signed .b8))
  else if ref = N_S_UINT8 then some (plainType (.unsigned .b8))
  else if ref = N_S_SINT16 then some (plainType (.signed .b16))
  else if ref = N_S_UINT16 then some (plainType (.unsigned .b16))
  else if ref = N_S_SINT32 then some (plainType (.signed .b32))
  else if ref = N_S_UINT32 then some (plainType (.unsigned .b32))
  else if ref = N_S_SINT64 then some (plainType (.signed .b64))
  else if ref = N_S_UINT64 then some (plainType (.unsigned .b64))
  else if ref = N_S_FLOA16 then none
  else if ref = N_S_FLOA32 then some (plainType (.float .w32))
  else if ref = N_S_FLOA64 then some (plainType (.float .w64))
  else if ref = N_S_STRG_ASCII then some (plainType .stringType)
  else if ref = N_S_STRG_UTF8 then some (plainType .stringType .utf8)
  else if ref = N_S_RAWD ∨ ref = N_S_RAW then some (plainType .raw)
  else
    match (lookupKV signals ref).bind (lookupKV codings) with
    | none => none
    | some base =>
      if base = N_A_UINT8 then some (plainType (.unsigned .b8))
      else if base = N_A_INT8 ∨ base = N_A_SINT8 then some (plainType (.signed .b8))
      else if base = N_A_UINT16 then some (plainType (.unsigned .b16))
      else if base = N_A_INT16 ∨ base = N_A_SINT16 then some (plainType (.signed .b16))
      else if base = N_A_UINT32 then some (plainType (.unsigned .b32))
      else if base = N_A_INT32 ∨ base = N_A_SINT32 then some (plainType (.signed .b32))
      else if base = N_A_UINT64 then some (plainType (.unsigned .b64))
      else if base = N_A_INT64 ∨ base = N_A_SINT64 then some (plainType (.signed .b64))
      else if base = N_A_FLOAT32 then some (plainType (.float .w32))
      else if base = N_A_FLOAT64 then some (plainType (.float .w64))
      else if base = N_A_ASCIISTRING then some (plainType .stringType)
      else if base = N_A_UNICODE2STRING then some (plainType .stringType .utf8)
      else none

structure PduMetadata where
  description : Option Bytes
  signalTypes : List TypeInfo
  deriving DecidableEq, Repr

structure FrameMetadata where
  shortName : Bytes
  pdus : List PduMetadata
  applicationId : Option Bytes
  contextId : Option Bytes
  messageType : Option Bytes
  messageInfo : Option Bytes
  deriving DecidableEq, Repr

/-- `FrameMetadataIdentification` -/
structure FrameKey where
  contextId : Bytes
  appId : Bytes
  frameId : Bytes
  deriving DecidableEq, Repr

structure FibexMetadata where
  frameMapWithKey : List (FrameKey × FrameMetadata) := []
  frameMap : List (Bytes × FrameMetadata) := []
  deriving Repr

/-- first definition of a PDU id wins -/
def buildPdus (signals codings : List (Bytes × Bytes)) :
    List (Bytes × (Option Bytes × List Bytes)) → List (Bytes × PduMetadata) → List (Bytes × PduMetadata)
  | [], m => m
  | (id, (desc, refs)) :: rest, m =>
    if m.any (·.1 == id) then buildPdus signals codings rest m
    else buildPdus signals codings rest
      (m ++ [(id, { description := desc
                    signalTypes := refs.filterMap fun r => typeInfoForSignalRef r signals codings })])

/-- resolve the PDU references of a frame; an unknown PDU is an error -/
def resolvePdus (pduById : List (Bytes × PduMetadata)) : List Bytes → Option (List PduMetadata)
  | [] => some []
  | r :: rs =>
    match lookupKV pduById r, resolvePdus pduById rs with
    | some p, some ps => some (p :: ps)
    | _, _ => none

def buildFrames (pduById : List (Bytes × PduMetadata)) :
    List (Bytes × FrameReadData) → FibexMetadata → Option FibexMetadata
  | [], md => some md
  | (id, fr) :: rest, md =>
    match resolvePdus pduById fr.pduRefs with
    | none => none
    | some pdus =>
      let frame : FrameMetadata :=
        { shortName := fr.shortName, pdus := pdus, applicationId := fr.applicationId
          contextId := fr.contextId, messageType := fr.messageType, messageInfo := fr.messageInfo }
      let withKey :=
        match fr.contextId, fr.applicationId with
        | some ctx, some app =>
          let key : FrameKey := { contextId := ctx, appId := app, frameId := id }
          if md.frameMapWithKey.any (·.1 == key) then md.frameMapWithKey
          else md.frameMapWithKey ++ [(key, frame)]
        | _, _ => md.frameMapWithKey
      let byId := if md.frameMap.any (·.1 == id) then md.frameMap else md.frameMap ++ [(id, frame)]
      buildFrames pduById rest { frameMapWithKey := withKey, frameMap := byId }

/-- `read_fibexes` -/
def readFibexes (files : List (Option (List XmlEv))) : Res FibexMetadata :=
  match readFiles files {} with
  | .err => .err
  | .panic => .panic
  | .ok acc =>
    let pduById := buildPdus acc.signals acc.codings acc.pdus []
    match buildFrames pduById acc.frames {} with
    | some md => .ok md
    | none => .err

/-- `gather_fibex_data`: `none` for an empty path list or any error -/
def gatherFibexData (files : List (Option (List XmlEv))) : Res (Option FibexMetadata) :=
  if files.isEmpty then .ok none
  else
    match readFibexes files with
    | .ok md => .ok (some md)
    | .err => .ok none
    | .panic => .panic

/-- decimal digits of a number, as bytes -/
def decimalBytes (n : Nat) : Bytes := (Nat.toDigits 10 n).map fun c => BitVec.ofNat 8 c.toNat

/-- `extract_metadata(md, id, extended_header)`: `"ID_<id>"`, by the keyed map when the
    extended header's ids are supplied, else by frame id alone -/
def extractMetadata (md : FibexMetadata) (id : Nat) (ext : Option (Bytes × Bytes)) :
    Option FrameMetadata :=
  let idText : Bytes := [0x49#8, 0x44#8, 0x5F#8] ++ decimalBytes id
  match ext with
  | some (app, ctx) =>
    (md.frameMapWithKey.find? (·.1 == { contextId := ctx, appId := app, frameId := idText })).map (·.2)
  | none => lookupKV md.frameMap idText

end Dlt.Fibex
