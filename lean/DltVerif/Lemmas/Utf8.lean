/-
  Facts about the UTF-8 recogniser (Model/Utf8.lean).
-/
import DltVerif.Model.Utf8

namespace Dlt.Utf8

/-- `scalarLen` inspects only the bytes it matches: whatever follows them may be replaced. -/
theorem scalarLen_local (bs r : Bytes) : scalarLen bs ≠ 0 →
    scalarLen (bs.take (scalarLen bs) ++ r) = scalarLen bs := by
  -- in every accepting case of the definition the input has the matched bytes as explicit head elements, so both
  -- sides compute
  fun_cases scalarLen bs <;> simp_all +zetaDelta [scalarLen]

theorem scalarLen_append (p r : Bytes) (h : scalarLen p ≠ 0) :
    scalarLen (p ++ r) = scalarLen p := by
  have := scalarLen_local p (p.drop (scalarLen p) ++ r) h
  rwa [← List.append_assoc, List.take_append_drop] at this

theorem scalarLen_take (bs : Bytes) (k : Nat) (h : scalarLen bs ≠ 0) (hk : scalarLen bs ≤ k) :
    scalarLen (bs.take k) = scalarLen bs := by
  have := scalarLen_local bs ((bs.take k).drop (scalarLen bs)) h
  rwa [← Nat.min_eq_left hk, ← List.take_take, Nat.min_eq_left hk, List.take_append_drop] at this

theorem scalarLen_of_take (bs : Bytes) (k : Nat) (h : scalarLen (bs.take k) ≠ 0) :
    scalarLen bs = scalarLen (bs.take k) := by
  have := scalarLen_append (bs.take k) (bs.drop k) h
  rwa [List.take_append_drop] at this

theorem validUpTo_of_scalarLen_eq_zero (b : Bytes) (h : scalarLen b = 0) : validUpTo b = 0 := by
  rw [validUpTo]; simp [h]

theorem validUpTo_of_scalarLen_ne_zero (b : Bytes) (h : scalarLen b ≠ 0) :
    validUpTo b = scalarLen b + validUpTo (b.drop (scalarLen b)) := by
  rw [validUpTo]; simp [h]

theorem validUpTo_nil : validUpTo [] = 0 :=
  validUpTo_of_scalarLen_eq_zero [] rfl

theorem validUpTo_le (b : Bytes) : validUpTo b ≤ b.length := by
  induction b using validUpTo.induct_unfolding with
  | case1 b h => exact Nat.zero_le _
  | case2 b h ih =>
    rw [List.length_drop] at ih
    exact Nat.add_le_of_le_sub' (scalarLen_le b) ih

theorem valid_iff (b : Bytes) : valid b = true ↔ validUpTo b = b.length := by
  simp [valid]

theorem validUpTo_append (a b : Bytes) (ha : valid a = true) :
    validUpTo (a ++ b) = a.length + validUpTo b := by
  rw [valid_iff] at ha
  induction a using validUpTo.induct with
  | case1 a h =>
    rw [validUpTo_of_scalarLen_eq_zero a h] at ha
    rw [List.eq_nil_of_length_eq_zero ha.symm, List.nil_append, List.length_nil, Nat.zero_add]
  | case2 a h ih =>
    have hle := scalarLen_le a
    rw [validUpTo_of_scalarLen_ne_zero a h] at ha
    have hsa := scalarLen_append a b h
    rw [validUpTo_of_scalarLen_ne_zero (a ++ b) (hsa ▸ h), hsa, List.drop_append_of_le_length hle,
      ih (by rw [List.length_drop]; exact Nat.eq_sub_of_add_eq' ha), List.length_drop,
      ← Nat.add_assoc, Nat.add_sub_of_le hle]

theorem valid_append (a b : Bytes) (ha : valid a = true) (hb : valid b = true) :
    valid (a ++ b) = true := by
  rw [valid_iff, validUpTo_append a b ha, (valid_iff b).1 hb, List.length_append]

theorem validUpTo_take_validUpTo (b : Bytes) :
    validUpTo (b.take (validUpTo b)) = validUpTo b := by
  induction b using validUpTo.induct_unfolding with
  | case1 b h => rw [List.take_zero, validUpTo_nil]
  | case2 b h ih =>
    have hs := scalarLen_take b (scalarLen b + validUpTo (b.drop (scalarLen b))) h (by omega)
    rw [validUpTo_of_scalarLen_ne_zero _ (by rw [hs]; exact h), hs, List.drop_take,
      Nat.add_sub_cancel_left, ih]

theorem valid_validPrefix (b : Bytes) : valid (validPrefix b) = true := by
  rw [valid_iff, validPrefix, validUpTo_take_validUpTo, List.length_take]
  have := validUpTo_le b
  omega

theorem validPrefix_longest (b : Bytes) :
    ∀ k, k ≤ b.length → valid (b.take k) = true → k ≤ (validPrefix b).length := by
  intro k hk hv
  have h1 := validUpTo_append (b.take k) (b.drop k) hv
  rw [List.take_append_drop, List.length_take] at h1
  rw [validPrefix, List.length_take]
  have := validUpTo_le b
  omega

theorem validPrefix_of_valid (b : Bytes) (h : valid b = true) : validPrefix b = b := by
  rw [validPrefix, (valid_iff b).1 h, List.take_length]

end Dlt.Utf8
