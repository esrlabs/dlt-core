/-
  C11: attributes a loader does not ask for do not matter - `Spec.plainAttrs` removes them and
  the reader cannot see the difference.
-/
import DltVerif.Lemmas.FibexLoops
import DltVerif.Lemmas.FibexLocal

namespace Dlt.Fibex
open Dlt.Fibex.Spec

/-- the matcher of `attr_opt` decides "names the attribute" -/
theorem keyMatches_eq (key name : Bytes) : keyMatches key name = some (namesAttr key name) := by
  unfold keyMatches namesAttr
  by_cases h : key = name
  · simp [h]
  by_cases hl : key.length > name.length
  · have hlt : key.length - name.length - 1 < key.length := by omega
    have hd := List.drop_eq_getElem_cons hlt
    rw [show key.length - name.length - 1 + 1 = key.length - name.length by omega] at hd
    simp [h, hl, hd, List.getElem?_eq_getElem hlt]
  · simp [h, hl]

theorem attrOpt_filter (name : Bytes) (attrs : List Attr) :
    attrOpt name (attrs.filter (keepAttr name)) = attrOpt name attrs := by
  induction attrs with
  | nil => rfl
  | cons a rest ih =>
    cases a with
    | err => rfl
    | ok key value =>
      cases hk : namesAttr key name <;> simp [keepAttr, attrOpt, keyMatches_eq, hk, ih]

theorem attrReq_filter (name : Bytes) (attrs : List Attr) :
    attrReq name (attrs.filter (keepAttr name)) = attrReq name attrs := by
  unfold attrReq
  rw [attrOpt_filter]

theorem readText_map (rest : List XmlEv) :
    readText (rest.map plainAttrs) = ((readText rest).1, (readText rest).2.map plainAttrs) := by
  cases rest with
  | nil => rfl
  | cons x r =>
    cases x with
    | text t => cases t <;> rfl
    | _ => rfl

theorem act_plainAttrs (st : RState) (e : XmlEv) : act st (plainAttrs e) = act st e := by
  cases e with
  | start t a =>
    cases t <;> first | rfl | simp only [plainAttrs, askedOnly, askedAttr, act, readEvent, attrReq_filter]
  | empty t a =>
    cases t <;> first | rfl | simp only [plainAttrs, askedOnly, askedAttr, act, readEvent, attrReq_filter]
  | _ => rfl

/-- a text element is asked for no attribute -/
theorem plainAttrs_text (t : Tag) (a : List Attr) (h : readsText t = true) :
    plainAttrs (.start t a) = .start t a := by
  cases t <;> simp_all [readsText, plainAttrs, askedOnly, askedAttr]

theorem textStart_plainAttrs (e : XmlEv) : textStart (plainAttrs e) = textStart e := by
  cases e <;> rfl

theorem plainAttrs_invisible : Invisible (List.map plainAttrs) := by
  intro st evs
  -- by the length: behind the start tag of a text element the reader goes on behind the event `read_text` took as well
  induction hn : evs.length using Nat.strongRecOn generalizing st evs with
  | _ n ih =>
    subst hn
    cases evs with
    | nil => simp [readEvent_nil]
    | cons e rest =>
      rw [List.map_cons]
      by_cases ht : textStart e = true
      · cases e with
        | start t a =>
          rw [plainAttrs_text t a ht, readEvent_cons_text st t a ht (readText_map rest),
            readEvent_cons_text st t a ht rfl]
          have := readText_length rest
          exact Act.run_invisible _ _ _ fun st => ih _ (by simp; omega) st _ rfl
        | _ => cases ht
      · have ht : textStart e = false := by simpa using ht
        rw [readEvent_cons _ _ _ (by rw [textStart_plainAttrs, ht]), act_plainAttrs, readEvent_cons _ _ _ ht]
        exact Act.run_invisible _ _ _ fun st => ih _ (by simp) st _ rfl

end Dlt.Fibex
