/-
  The `read_exact` loops meet their contract for every schedule; the reader loop refines
  the Spec's cut-and-parse.  The algebra of the cut: one step `cutHead` (`cut_eq`), a whole piece
  in front is cut off as such (`IsPiece`, `cut_append_piece`), hence a stream of serialised
  messages is read back (`readStream_asBytes_append`).
-/
import DltVerif.Spec.Reader
import DltVerif.Lemmas.RoundTripMsg
import DltVerif.Lemmas.Layout

namespace Dlt

/-- contract of a `read_exact`: with `n` bytes left (buffered or in the source) it returns
    exactly the next `n` bytes and leaves the rest; otherwise it reports end of file and the
    stream is exhausted — whatever the schedule -/
def ExactContract (rx : Src → Nat → Src × Exact) : Prop :=
  ∀ (s : Src) (n : Nat),
    (n ≤ (s.buf ++ s.data).length →
      ∃ s', rx s n = (s', .ok ((s.buf ++ s.data).take n)) ∧ s'.buf ++ s'.data = (s.buf ++ s.data).drop n)
    ∧ ((s.buf ++ s.data).length < n →
      ∃ s', rx s n = (s', .eof) ∧ s'.buf ++ s'.data = [])

theorem take_eq_nil_of_ne_zero {α : Type} {n : Nat} (hn : n ≠ 0) {l : List α}
    (h : l.take n = []) : l = [] :=
  (List.take_eq_nil_iff.1 h).resolve_left hn

theorem Src.read_bytes (s s' : Src) (want : Nat) (b : Bytes) (hw : want ≠ 0)
    (h : s.read want = (s', .bytes b)) :
    b ++ (s'.buf ++ s'.data) = s.buf ++ s.data ∧ b.length ≤ want ∧
      (b = [] → s.buf ++ s.data = []) := by
  -- in each branch the caller gets `x.take want` of a front part `x` of what is left
  unfold Src.read at h
  split at h
  · rename_i hb
    cases h
    exact ⟨by simp only [← List.append_assoc, List.take_append_drop], List.length_take_le _ _,
      fun h0 => absurd (take_eq_nil_of_ne_zero hw h0) hb⟩
  · rename_i hb
    have hb : s.buf = [] := by simpa using hb
    rw [hb, List.nil_append]
    split at h
    · cases h
      exact ⟨by simp only [List.append_nil, List.take_append_drop], List.length_take_le _ _,
        take_eq_nil_of_ne_zero hw⟩
    · cases h
    · cases h
      exact ⟨by simp only [← List.append_assoc, List.take_append_drop], List.length_take_le _ _,
        fun h0 => take_eq_nil_of_ne_zero (by omega) (take_eq_nil_of_ne_zero hw h0)⟩

theorem Src.read_stall (s s' : Src) (want : Nat)
    (h : s.read want = (s', .stall)) : s'.buf ++ s'.data = s.buf ++ s.data := by
  unfold Src.read at h
  split at h
  · cases h
  · split at h <;> cases h
    rfl

/-- one unfolding of the loop, with a plain `match` -/
theorem readExactLoop_eq (s : Src) (acc : Bytes) (want : Nat) :
    readExactLoop s acc want =
      if want = 0 then (s, .ok acc)
      else
        match s.read want with
        | (s', .stall) => readExactLoop s' acc want
        | (s', .bytes b) =>
          if b = [] then (s', .eof) else readExactLoop s' (acc ++ b) (want - b.length) := by
  rw [readExactLoop]
  split
  · rfl
  · split <;> simp_all

/-- the loop invariant: the contract, with `acc` what has been copied so far -/
theorem readExactLoop_spec (s : Src) (acc : Bytes) (want : Nat) :
    (want ≤ (s.buf ++ s.data).length →
      ∃ s', readExactLoop s acc want = (s', .ok (acc ++ (s.buf ++ s.data).take want)) ∧
        s'.buf ++ s'.data = (s.buf ++ s.data).drop want) ∧
    ((s.buf ++ s.data).length < want →
      ∃ s', readExactLoop s acc want = (s', .eof) ∧ s'.buf ++ s'.data = []) := by
  -- the cases: nothing wanted; an interrupted read; a read that returns nothing; a read that returns `b`
  fun_induction readExactLoop s acc want with
  | case1 s acc =>
    exact ⟨fun _ => ⟨s, by rw [List.take_zero, List.append_nil], rfl⟩,
      fun h => absurd h (Nat.not_lt_zero _)⟩
  | case2 s acc want hw s' h ih => rwa [Src.read_stall s s' want h] at ih
  | case3 s acc want hw s' h =>
    obtain ⟨h1, _, h3⟩ := Src.read_bytes s s' want [] hw h
    rw [h3 rfl] at h1 ⊢
    exact ⟨fun hle => absurd (Nat.le_zero.1 hle) hw, fun _ => ⟨s', rfl, h1⟩⟩
  | case4 s acc want hw s' b h hb ih =>
    obtain ⟨h1, h2, _⟩ := Src.read_bytes s s' want b hw h
    rw [← h1, List.length_append]
    refine ⟨fun hle => ?_, fun hlt => ih.2 (Nat.lt_sub_iff_add_lt'.2 hlt)⟩
    obtain ⟨s'', e1, e2⟩ := ih.1 (Nat.sub_le_iff_le_add'.2 hle)
    exact ⟨s'', by rw [e1, List.take_append (l₁ := b), List.take_of_length_le h2, List.append_assoc],
      by rw [e2, List.drop_append (l₁ := b), List.drop_of_length_le h2, List.nil_append]⟩

theorem readExact_contract : ExactContract readExact := by
  intro s n
  have := readExactLoop_spec s [] n
  rwa [List.nil_append] at this

/-- a poll runs the blocking loop up to its first stall: `Ready` with the loop's result, or
    `Pending` having used up a schedule step, the loop's result from here unchanged -/
theorem ReadExactFut.poll_loop (fut : ReadExactFut) (s : Src) :
    match fut.poll s with
    | (s', _, .ready r) => readExactLoop s fut.acc fut.want = (s', r)
    | (s', fut', .pending) => s'.sched.length < s.sched.length ∧
        readExactLoop s fut.acc fut.want = readExactLoop s' fut'.acc fut'.want := by
  -- the four cases of `readExactLoop_spec`
  fun_induction ReadExactFut.poll fut s with
  | case1 fut s hw => rw [readExactLoop_eq, if_pos hw]
  | case2 fut s hw s' h =>
    exact ⟨Src.read_stall_sched s _ s' h, by rw [readExactLoop_eq, if_neg hw, h]⟩
  | case3 fut s hw s' h => rw [readExactLoop_eq, if_neg hw, h]; rfl
  | case4 fut s hw s' b h hb ih =>
    have hs : s'.sched.length ≤ s.sched.length := by
      have := Src.read_sched_le s fut.want
      rwa [h] at this
    rw [readExactLoop_eq, if_neg hw, h]
    simp only [if_neg hb]
    split <;> rename_i e <;> rw [e] at ih
    · exact ih
    · exact ⟨Nat.lt_of_lt_of_le ih.1 hs, ih.2⟩

theorem blockOnReadExact_eq_loop (fuel : Nat) : ∀ (fut : ReadExactFut) (s : Src),
    s.sched.length < fuel → blockOnReadExact fuel fut s = readExactLoop s fut.acc fut.want := by
  induction fuel with
  | zero => intro fut s h; exact absurd h (Nat.not_lt_zero _)
  | succ fuel ih =>
    intro fut s h
    have hp := fut.poll_loop s
    rw [blockOnReadExact]
    split at hp <;> rename_i e <;> rw [e]
    · exact hp.symm
    · rw [hp.2]; exact ih _ _ (Nat.lt_of_lt_of_le hp.1 (Nat.le_of_lt_succ h))

/-- asynchronous: the poll loop re-polled by the executor after every `Pending` returns what
    the blocking retry loop returns, source state included -/
theorem readExactAsync_eq : readExactAsync = readExact := by
  funext s n
  exact blockOnReadExact_eq_loop _ _ s (Nat.lt_succ_self _)

theorem parseLength_take4 (x : Bytes) (h : 4 ≤ x.length) :
    parseLength (x.take 4) = .ok (Spec.declaredLen x) [] := by
  rcases x with _ | ⟨a, _ | ⟨b, _ | ⟨hi, _ | ⟨lo, t⟩⟩⟩⟩
  iterate 4 simp at h
  simp [parseLength, take, uintN, Endian.value, fromBE, fromLE, Spec.declaredLen]
  omega

/-- the first piece of the Spec's cut and the bytes behind it; `none` where fewer bytes than a
    (storage and) standard header are left -/
def cutHead (w : Bool) (bs : Bytes) : Option (Spec.Piece × Bytes) :=
  let s := if w then 16 else 0
  let len := Spec.declaredLen (bs.drop s)
  if bs.length < s + 4 then none
  else if len < 4 then some (.badLen, bs.drop (s + 4))
  else if bs.length < s + len then some (.truncated, [])
  else some (.msg (bs.take (s + len)), bs.drop (s + len))

/-- a cut makes progress (every piece is at least 4 bytes long) -/
theorem cutHead_lt {w : Bool} {bs r : Bytes} {p : Spec.Piece} (h : cutHead w bs = some (p, r)) :
    r.length < bs.length := by
  unfold cutHead at h
  simp only [] at h
  generalize (if w = true then 16 else 0) = sl at h
  split at h
  · cases h
  · split at h
    · cases h
      rw [List.length_drop]
      omega
    · split at h <;> cases h
      · rw [List.length_nil]
        omega
      · rw [List.length_drop]
        omega

theorem cutFuel_nil (w : Bool) (fuel : Nat) : Spec.cutFuel w fuel [] = [] := by
  cases fuel <;> cases w <;> rfl

theorem cutFuel_succ (w : Bool) (fuel : Nat) (bs : Bytes) :
    Spec.cutFuel w (fuel + 1) bs =
      match cutHead w bs with
      | none => []
      | some (p, r) => p :: Spec.cutFuel w fuel r := by
  rw [Spec.cutFuel, cutHead]
  simp only []
  generalize (if w = true then 16 else 0) = sl
  split
  · rfl
  · split
    · rfl
    · split
      · exact congrArg _ (cutFuel_nil w fuel).symm
      · rfl

theorem cutFuel_fuel_irrelevant (w : Bool) : ∀ (f1 f2 : Nat) (bs : Bytes),
    bs.length < f1 → bs.length < f2 → Spec.cutFuel w f1 bs = Spec.cutFuel w f2 bs := by
  intro f1
  induction f1 with
  | zero => intro f2 bs h; exact absurd h (Nat.not_lt_zero _)
  | succ f1 ih =>
    intro f2 bs h1 h2
    cases f2 with
    | zero => exact absurd h2 (Nat.not_lt_zero _)
    | succ f2 =>
      rw [cutFuel_succ, cutFuel_succ]
      cases h : cutHead w bs with
      | none => rfl
      | some x =>
        have := cutHead_lt h
        exact congrArg _ (ih f2 x.2 (by omega) (by omega))

theorem cut_nil (w : Bool) : Spec.cut w [] = [] := cutFuel_nil w 1

/-- the recursion of the Spec's cut, free of fuel -/
theorem cut_eq (w : Bool) (bs : Bytes) :
    Spec.cut w bs =
      match cutHead w bs with
      | none => []
      | some (p, r) => p :: Spec.cut w r := by
  rw [Spec.cut, cutFuel_succ]
  cases h : cutHead w bs with
  | none => rfl
  | some x =>
    have := cutHead_lt h
    exact congrArg _ (cutFuel_fuel_irrelevant w _ _ x.2 this (Nat.lt_succ_self _))

/-- the contract in closed form: one outcome, and the bytes left are always the rest -/
theorem ExactContract.run {rx : Src → Nat → Src × Exact} (hrx : ExactContract rx) (s : Src)
    (n : Nat) :
    ∃ s', rx s n = (s', if n ≤ (s.buf ++ s.data).length then .ok ((s.buf ++ s.data).take n)
        else .eof) ∧ s'.buf ++ s'.data = (s.buf ++ s.data).drop n := by
  by_cases h : n ≤ (s.buf ++ s.data).length
  · rw [if_pos h]
    exact (hrx s n).1 h
  · have hlt := Nat.lt_of_not_le h
    obtain ⟨s', e, r⟩ := (hrx s n).2 hlt
    exact ⟨s', by rw [if_neg h, e], by rw [r, List.drop_of_length_le (Nat.le_of_lt hlt)]⟩

/-- what `next_message_slice` returns for a piece of the Spec's cut -/
def Spec.Piece.toRes : Spec.Piece → SliceRes
  | .msg b => .slice b
  | .badLen => .hickup
  | .truncated => .ioError

/-- one `next_message_slice` is one step of the Spec's cut on the bytes left: end of stream
    where the cut ends, otherwise the first piece, leaving the bytes behind it -/
theorem nextMessageSliceWith_cut (rx : Src → Nat → Src × Exact) (hrx : ExactContract rx)
    (w : Bool) (s : Src) :
    ∃ s', nextMessageSliceWith rx w s
        = (s', match cutHead w (s.buf ++ s.data) with
               | none => .empty
               | some (p, _) => p.toRes)
      ∧ ∀ p r, cutHead w (s.buf ++ s.data) = some (p, r) → s'.buf ++ s'.data = r := by
  unfold nextMessageSliceWith cutHead
  simp only [STORAGE_HEADER_LENGTH, HEADER_MIN_LENGTH]
  obtain ⟨sl, hsl⟩ : ∃ sl, sl = if w = true then 16 else 0 := ⟨_, rfl⟩
  have hsl16 : sl ≤ 16 := by subst hsl; split <;> omega
  simp only [← hsl]
  clear hsl
  -- the two calls of `read_exact`, by the contract: the (storage and) standard header up to LEN, then the other
  -- `LEN - 4` bytes of the message; what is compared in between is what `cutHead` compares
  obtain ⟨s1, e1, r1⟩ := hrx.run s (sl + 4)
  obtain ⟨s2, e2, r2⟩ := hrx.run s1 (Spec.declaredLen ((s.buf ++ s.data).drop sl) - 4)
  have hlt := declaredLen_lt ((s.buf ++ s.data).drop sl)
  rw [r1] at e2 r2
  generalize s.buf ++ s.data = bs at *
  rw [e1]
  clear e1 hrx
  by_cases c1 : bs.length < sl + 4
  · rw [if_neg (by omega), if_pos c1]
    exact ⟨s1, rfl, nofun⟩
  · rw [if_pos (by omega), if_neg c1]
    simp only []
    rw [List.drop_take, Nat.add_sub_cancel_left,
      parseLength_take4 _ (List.length_drop .. ▸ Nat.le_sub_of_add_le' (Nat.not_lt.1 c1))]
    simp only []
    generalize Spec.declaredLen (bs.drop sl) = len at *
    by_cases c2 : len < 4
    · rw [if_pos c2, if_pos c2]
      exact ⟨s1, rfl, fun p r h => by cases h; exact r1⟩
    · have hp : ¬ (sl + len < sl + 4 ∨ DEFAULT_MESSAGE_MAX_LEN < sl + len) := by
        unfold DEFAULT_MESSAGE_MAX_LEN STORAGE_HEADER_LENGTH
        omega
      rw [if_neg c2, if_neg c2, if_neg hp, Nat.add_sub_add_left sl len 4, e2,
        List.length_drop]
      clear e2 hp
      by_cases c3 : bs.length < sl + len
      · rw [if_neg (by omega), if_pos c3]
        exact ⟨s2, rfl, fun p r h => by
          cases h; rw [r2, List.drop_of_length_le (by rw [List.length_drop]; omega)]⟩
      · rw [if_pos (by omega), if_neg c3]
        refine ⟨s2, ?_, fun p r h => by cases h; rw [r2, List.drop_drop]; congr 1; omega⟩
        simp only [Spec.Piece.toRes]
        rw [← List.take_add]
        congr 3
        omega

theorem readMessageWith_piece (rx : Src → Nat → Src × Exact) (w : Bool)
    (f : Option ProcessedFilter) (s s' : Src) (p : Spec.Piece)
    (h : nextMessageSliceWith rx w s = (s', p.toRes)) :
    readMessageWith rx w f s = (s', some (Spec.deliver w f p)) := by
  unfold readMessageWith
  rw [h]
  cases p with
  | msg b => simp only [Spec.Piece.toRes, Spec.deliver]; cases dltMessage b f w <;> rfl
  | badLen => rfl
  | truncated => rfl

/-- any `read_exact` that meets the contract makes the reader loop deliver the Spec's
    cut-and-parse of the bytes that were left -/
theorem readAllWith_refines (rx : Src → Nat → Src × Exact) (hrx : ExactContract rx) (w : Bool)
    (f : Option ProcessedFilter) (s : Src) (fuel : Nat) (hf : (s.buf ++ s.data).length < fuel) :
    readAllWith rx w f fuel s = Spec.readStream w f (s.buf ++ s.data) := by
  induction fuel generalizing s with
  | zero => exact absurd hf (Nat.not_lt_zero _)
  | succ fuel ih =>
    rw [Spec.readStream, cut_eq, readAllWith]
    obtain ⟨s', e, hr⟩ := nextMessageSliceWith_cut rx hrx w s
    cases hc : cutHead w (s.buf ++ s.data) with
    | none => simp only [readMessageWith, e, hc, List.map_nil]
    | some x =>
      obtain ⟨p, r⟩ := x
      rw [hc] at e
      have := cutHead_lt hc
      obtain rfl := hr p r hc
      simp only [readMessageWith_piece rx w f s s' p e, List.map_cons, Spec.readStream,
        ih s' (Nat.lt_of_lt_of_le this (Nat.le_of_lt_succ hf))]

/-- `b` is one complete piece: a (storage and) standard header followed by as many bytes as its
    LEN field declares -/
def IsPiece (w : Bool) (b : Bytes) : Prop :=
  (if w then 16 else 0) + 4 ≤ b.length
    ∧ b.length = (if w then 16 else 0) + Spec.declaredLen (b.drop (if w then 16 else 0))

theorem cut_append_piece (w : Bool) (b rest : Bytes) (h : IsPiece w b) :
    Spec.cut w (b ++ rest) = .msg b :: Spec.cut w rest := by
  obtain ⟨hlen, hdecl⟩ := h
  rw [cut_eq, cutHead]
  generalize (if w = true then 16 else 0) = sl at *
  have hd : Spec.declaredLen (List.drop sl (b ++ rest)) = Spec.declaredLen (List.drop sl b) := by
    rw [List.drop_append_of_le_length (Nat.le_trans (Nat.le_add_right sl 4) hlen),
      declaredLen_append _ _ (by rw [List.length_drop]; exact Nat.le_sub_of_add_le' hlen)]
  rw [hd, ← hdecl, List.length_append, if_neg (by omega), if_neg (by omega),
    if_neg (Nat.not_lt.2 (Nat.le_add_right _ _)), List.take_left' rfl, List.drop_left' rfl]

theorem cut_strict_prefix (w : Bool) (b : Bytes) (k : Nat) (h : IsPiece w b) (hk : k < b.length) :
    Spec.cut w (b.take k) = [] ∨ Spec.cut w (b.take k) = [.truncated] := by
  obtain ⟨hlen, hdecl⟩ := h
  rw [cut_eq, cutHead]
  generalize (if w = true then 16 else 0) = sl at *
  rw [List.length_take_of_le (Nat.le_of_lt hk)]
  by_cases c1 : k < sl + 4
  · left; rw [if_pos c1]
  · right
    have hd : Spec.declaredLen (List.drop sl (b.take k)) = Spec.declaredLen (List.drop sl b) := by
      rw [List.drop_take, declaredLen_take _ _ (Nat.le_sub_of_add_le' (Nat.le_of_not_lt c1))]
    rw [if_neg c1, hd, if_neg (by omega), if_pos (hdecl ▸ hk)]
    exact congrArg _ (cut_nil w)

theorem declaredLen_standardHeader (h : StandardHeader) (r : Bytes)
    (hl : h.overallLengthNat ≤ 65535) :
    Spec.declaredLen (h.asBytes ++ r) = h.overallLengthNat := by
  have hb : bytesBE 2 h.overallLength
      = [BitVec.ofNat 8 (h.overallLength / 256), BitVec.ofNat 8 h.overallLength] := rfl
  rw [StandardHeader.asBytes, hb, (StandardHeader.overallLength_of_lt rfl (by omega)).2]
  simp only [List.cons_append, List.nil_append, List.append_assoc, Spec.declaredLen,
    BitVec.toNat_ofNat]
  omega

theorem Message.wf_piece_of (m : Message) (w : Bool) (h : m.wf = true)
    (hw : m.storageHeader.isSome = w) : IsPiece w m.asBytes := by
  subst hw
  unfold IsPiece
  obtain ⟨hsh, _, _, _, _, _, _, hlen⟩ := (Message.wf_iff m).1 h
  have hl := Message.wf_length m h
  have h4 : 4 ≤ m.header.overallLengthNat := by
    simp only [StandardHeader.overallLengthNat, HEADER_MIN_LENGTH, Nat.add_assoc]
    exact Nat.le_add_right 4 _
  have hs := length_shBytes _ hsh
  rw [Message.asBytes_eq, List.drop_left' hs, declaredLen_standardHeader _ _ hlen,
    ← Message.asBytes_eq]
  exact ⟨by rw [hl]; exact Nat.add_le_add_left h4 _, hl⟩

theorem deliver_asBytes (m : Message) (w : Bool) (h : m.wf = true)
    (hw : m.storageHeader.isSome = w) :
    Spec.deliver w none (.msg m.asBytes) = .parsed (.item m) := by
  subst hw
  have hp := dltMessageIntern_asBytes m h []
  rw [List.append_nil] at hp
  simp only [Spec.deliver, dltMessage, hp, PRes.toResult]

theorem readStream_asBytes_append (w : Bool) (ms : List Message) (t : Bytes)
    (hms : ∀ x ∈ ms, x.wf = true ∧ x.storageHeader.isSome = w) :
    Spec.readStream w none ((ms.map Message.asBytes).flatten ++ t)
      = ms.map (fun x => Delivered.parsed (.item x)) ++ Spec.readStream w none t := by
  induction ms with
  | nil => rfl
  | cons x xs ih =>
    obtain ⟨hx, hxw⟩ := hms x (List.mem_cons_self ..)
    have := ih (fun y hy => hms y (List.mem_cons_of_mem _ hy))
    rw [Spec.readStream] at this ⊢
    rw [List.map_cons, List.flatten_cons, List.append_assoc,
      cut_append_piece w x.asBytes _ (Message.wf_piece_of x w hx hxw), List.map_cons, deliver_asBytes x w hx hxw, this]
    rfl

end Dlt
