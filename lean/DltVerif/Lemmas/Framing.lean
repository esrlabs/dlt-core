/-
  Closed form of the message parser behind the storage header: what `dlt_standard_header`,
  `dlt_extended_header` and `dlt_message_intern` answer is determined by the Spec's framing
  (HTYP and LEN alone), for every byte string, and the headers they return are the ones the
  Spec reads by offset.

  `dlt_message_intern` is cut into three stages: the storage header (Lemmas/FramingStorage.lean),
  and, with the storage header read or absent as a parameter, `msgBody` (the headers and the
  length check, `msgBody_closed`) and `msgFinish` (filter and payload; `msgFinish_cases`,
  `msgFinish_filtered`).
-/
import DltVerif.Lemmas.ParserSat
import DltVerif.Lemmas.CodecNum
import DltVerif.Lemmas.Layout
import DltVerif.Lemmas.Codes

namespace Dlt

/-- a parser that consumes exactly `n` bytes, or asks for at most what is missing of them -/
private def Reads {α : Type} (n : Nat) (p : Bytes → PRes α) : Prop :=
  ∀ i : Bytes,
    (n ≤ i.length ∧ ∃ v, p i = .ok v (i.drop n)) ∨
    (i.length < n ∧ ∃ k, p i = .incomplete (some k) ∧ 1 ≤ k ∧ k ≤ n - i.length)

private theorem uintN_reads (e : Endian) (k : Nat) : Reads k (uintN e k) := by
  intro i
  by_cases c : i.length < k
  · exact Or.inr ⟨c, (uintN_takes e k).short c⟩
  · obtain ⟨v, hv, _⟩ := (uintN_takes e k).long (Nat.le_of_not_lt c)
    exact Or.inl ⟨Nat.le_of_not_lt c, v, hv⟩

private theorem uintN_big2 (hi lo : BitVec 8) (rest : Bytes) :
    uintN .big 2 (hi :: lo :: rest) = .ok (256 * hi.toNat + lo.toNat) rest := by
  have h : ¬ (hi :: lo :: rest).length < 2 := by simp only [List.length_cons]; omega
  simp only [uintN, h, if_false, Endian.value, fromBE, fromLE, List.take_succ_cons, List.take_zero,
    List.drop_succ_cons, List.drop_zero, List.reverse_cons, List.reverse_nil, List.nil_append,
    List.cons_append, Nat.mul_zero, Nat.add_zero]
  rw [Nat.add_comm]

theorem zts4 (r : Bytes) (h : 4 ≤ r.length) :
    zts 4 r = .ok (Spec.fieldText (r.take 4)) (r.drop 4) :=
  zts_ok 4 r h

theorem bitsN_big4 (r : Bytes) (h : 4 ≤ r.length) :
    bitsN .big 4 r = .ok (BitVec.ofNat 32 (Spec.numBE (r.take 4))) (r.drop 4) := by
  rw [bitsN_of_le _ _ _ h, Endian.value, numBE_eq_fromBE]

theorem drop4 (a b c d : BitVec 8) (rest : Bytes) : List.drop 4 (a :: b :: c :: d :: rest) = rest := rfl

theorem drop4_add (a b c d : BitVec 8) (rest : Bytes) (n : Nat) :
    List.drop (4 + n) (a :: b :: c :: d :: rest) = rest.drop n := by
  rw [Nat.add_comm]; rfl

theorem optField_exact {α : Type} {p : Bytes → PRes α} {g : Bytes → α}
    (hp : ∀ r, 4 ≤ r.length → p r = .ok (g (r.take 4)) (r.drop 4)) (b : Bool) (r : Bytes)
    (h : (if b then 4 else 0) ≤ r.length) :
    (if b = true then (p r).map some else PRes.ok none r)
      = .ok (if b then some (g (r.take 4)) else none) (r.drop (if b then 4 else 0)) := by
  cases b with
  | false => rfl
  | true => rw [if_pos rfl, hp r h]; rfl

theorem dltStandardHeader_exact (bs : Bytes)
    (hl : Spec.stdHeaderLen (bs.headD 0#8) ≤ bs.length) :
    dltStandardHeader bs =
      if Spec.declaredLen bs < Spec.allHeadersLen (bs.headD 0#8) then .error
      else .ok (Spec.stdHeaderOf bs) (bs.drop (Spec.stdHeaderLen (bs.headD 0#8))) := by
  have h4 := stdHeaderLen_ge (bs.headD 0#8)
  rcases bs with _ | ⟨htyp, _ | ⟨mcnt, _ | ⟨hi, _ | ⟨lo, rest⟩⟩⟩⟩
  iterate 4 exact absurd hl (by simp only [List.length_cons, List.length_nil]; omega)
  have hdl : Spec.declaredLen (htyp :: mcnt :: hi :: lo :: rest) = 256 * hi.toNat + lo.toNat := rfl
  change Spec.stdHeaderLen htyp ≤ _ at hl
  change _ = if _ < Spec.allHeadersLen htyp then _
    else PRes.ok _ (List.drop (Spec.stdHeaderLen htyp) _)
  simp only [hdl, Spec.stdHeaderLen, List.length_cons] at hl ⊢
  unfold dltStandardHeader
  obtain ⟨fecu, fsid, fts, fext, -, hall, -, -, fbig, fver⟩ := htyp_table htyp
  simp only [beU8, PRes.andThen_ok, uintN_big2, fecu, fsid, fts, fext, fbig, fver, hall]
  rw [optField_exact zts4 (Spec.bit htyp 2) rest (by omega), PRes.andThen_ok,
    optField_exact (g := fun b => BitVec.ofNat 32 (Spec.numBE b)) bitsN_big4 (Spec.bit htyp 3) _
      (by rw [List.length_drop]; omega), PRes.andThen_ok,
    optField_exact (g := fun b => BitVec.ofNat 32 (Spec.numBE b)) bitsN_big4 (Spec.bit htyp 4) _
      (by rw [List.length_drop, List.length_drop]; omega), PRes.andThen_ok]
  by_cases c : 256 * hi.toNat + lo.toNat < Spec.allHeadersLen htyp
  · rw [if_pos c, if_pos c]
  · rw [if_neg c, if_neg c]
    unfold Spec.stdHeaderOf
    simp only [List.headD_cons, hdl, Spec.at4, List.getD_cons_succ, List.getD_cons_zero, drop4,
      drop4_add, List.drop_drop, Nat.add_assoc]
    rfl

theorem stdHeaderOf_facts (bs : Bytes) (hl : Spec.stdHeaderLen (bs.headD 0#8) ≤ bs.length)
    (hd : Spec.allHeadersLen (bs.headD 0#8) ≤ Spec.declaredLen bs) :
    (Spec.stdHeaderOf bs).overallLengthNat = Spec.declaredLen bs
      ∧ calculateAllHeadersLength (Spec.stdHeaderOf bs).headerTypeByte
          = Spec.allHeadersLen (bs.headD 0#8)
      ∧ (Spec.stdHeaderOf bs).version.toNat < 8
      ∧ (∀ id, (Spec.stdHeaderOf bs).ecuId = some id → idOk id = true) := by
  -- the optional fields of the record read by offset are present exactly as HTYP says
  have hall : calculateAllHeadersLength (Spec.stdHeaderOf bs).headerTypeByte
      = Spec.allHeadersLen (bs.headD 0#8) := by
    simp only [StandardHeader.headerTypeByte, calculateAllHeadersLength_standardHeaderType,
      Spec.stdHeaderOf, Spec.allHeadersLen, Spec.stdHeaderLen, HEADER_MIN_LENGTH,
      EXTENDED_HEADER_LENGTH, apply_ite Option.isSome, Option.isSome_some, Option.isSome_none,
      Bool.if_true_left, Bool.or_false, Bool.decide_eq_true]
  refine ⟨?_, hall, ?_, fun id hid => ?_⟩
  · rw [StandardHeader.overallLengthNat_eq, hall]
    simp only [Spec.stdHeaderOf, BitVec.toNat_ofNat,
      Nat.mod_eq_of_lt (Nat.sub_lt_of_lt (declaredLen_lt bs)), Nat.add_sub_cancel' hd]
  · simp only [Spec.stdHeaderOf, BitVec.toNat_ofNat]
    exact Nat.mod_lt_of_lt (Nat.div_lt_of_lt_mul (BitVec.isLt _))
  unfold Spec.stdHeaderOf at hid
  simp only [] at hid
  split at hid
  · rename_i c
    injection hid with hid
    subst hid
    have h8 : 4 ≤ (bs.drop 4).length := by
      simp only [Spec.stdHeaderLen, c, if_true] at hl
      rw [List.length_drop]
      exact Nat.le_sub_of_add_le (Nat.le_of_add_right_le (Nat.le_of_add_right_le hl))
    exact (idOk_iff _).2 (zts_ok_value (zts4 (bs.drop 4) h8))
  · cases hid

theorem dltStandardHeader_short (i : Bytes) (h : i.length < Spec.stdHeaderLen (i.headD 0#8)) :
    ∃ b n, Spec.framing i = .incomplete b ∧ dltStandardHeader i = .incomplete (some n) ∧ 1 ≤ n ∧ n ≤ b := by
  cases i with
  | nil => exact ⟨1, 1, rfl, rfl, Nat.le_refl _, Nat.le_refl _⟩
  | cons htyp t =>
    change _ < Spec.stdHeaderLen htyp at h
    -- behind HTYP: counter, length, and the three optional 4-byte fields
    have key : Needs (1 + (2 + ((if Spec.bit htyp 2 then 4 else 0) + ((if Spec.bit htyp 3 then 4 else 0)
          + ((if Spec.bit htyp 4 then 4 else 0) + 0)))))
        (fun t => dltStandardHeader (htyp :: t)) (fun _ _ => True) := by
      obtain ⟨fecu, fsid, fts, -⟩ := htyp_table htyp
      simp only [dltStandardHeader, beU8, PRes.andThen_ok, fecu, fsid, fts]
      exact beU8_takes.bind fun _ _ => (uintN_takes .big 2).bind fun _ _ =>
        ((zts_takes 4).opt _).bind fun _ _ => ((bitsN_takes .big 4).opt _).bind fun _ _ =>
        ((bitsN_takes .big 4).opt _).bind fun _ _ => Needs.zero fun _ => trivial
    rw [framing_cons, if_pos h]
    simp only [Spec.stdHeaderLen, List.length_cons] at h ⊢
    obtain ⟨k, hk, k1, k2⟩ := key.short (i := t) (by omega)
    exact ⟨_, k, rfl, hk, k1, by omega⟩

theorem dltStandardHeader_closed (bs : Bytes) :
    (∃ b n, Spec.framing bs = .incomplete b ∧ dltStandardHeader bs = .incomplete (some n)
        ∧ 1 ≤ n ∧ n ≤ b)
    ∨ (Spec.framing bs = .reject ∧ dltStandardHeader bs = .error)
    ∨ (Spec.stdHeaderLen (bs.headD 0#8) ≤ bs.length
        ∧ Spec.allHeadersLen (bs.headD 0#8) ≤ Spec.declaredLen bs
        ∧ dltStandardHeader bs
            = .ok (Spec.stdHeaderOf bs) (bs.drop (Spec.stdHeaderLen (bs.headD 0#8)))
        ∧ Spec.framing bs =
            if bs.length < Spec.allHeadersLen (bs.headD 0#8) then
              .incomplete (Spec.allHeadersLen (bs.headD 0#8) - bs.length)
            else if bs.length < Spec.declaredLen bs then
              .incomplete (Spec.declaredLen bs - bs.length)
            else .complete (Spec.declaredLen bs)) := by
  by_cases c1 : bs.length < Spec.stdHeaderLen (bs.headD 0#8)
  · exact Or.inl (dltStandardHeader_short bs c1)
  · have c1 := Nat.le_of_not_lt c1
    rw [framing_of_le bs c1, dltStandardHeader_exact bs c1]
    by_cases c2 : Spec.declaredLen bs < Spec.allHeadersLen (bs.headD 0#8)
    · exact Or.inr (Or.inl ⟨if_pos c2, if_pos c2⟩)
    · exact Or.inr (Or.inr ⟨c1, Nat.le_of_not_lt c2, if_neg c2, if_neg c2⟩)

theorem dltExtendedHeader_takes : Takes 10 dltExtendedHeader fun eh => eh.wf = true :=
  show Takes (1 + (1 + (4 + (4 + 0)))) _ _ from
  beU8_takes.bind fun msin _ => beU8_takes.bind fun argc _ => (zts_takes 4).bind fun app ha =>
    (zts_takes 4).bind fun ctx hc => Needs.zero fun i =>
      ⟨_, rfl, by simp only [ExtendedHeader.wf, (idOk_iff _).2 ha, (idOk_iff _).2 hc,
        (msin_table msin).2.2, Bool.and_self]⟩

/-- the extended header at the start of `i`, read by offset -/
def extAt (i : Bytes) : ExtendedHeader :=
  { verbose := decide ((i.getD 0 0#8).toNat % 2 = 1)
    argumentCount := i.getD 1 0#8
    messageType := Spec.msinType (i.getD 0 0#8)
    applicationId := Spec.fieldText ((i.drop 2).take 4)
    contextId := Spec.fieldText ((i.drop 6).take 4) }

theorem dltExtendedHeader_exact (i : Bytes) (h : 10 ≤ i.length) :
    dltExtendedHeader i = .ok (extAt i) (i.drop 10) := by
  match i, h with
  | msin :: argc :: rest, h =>
    simp only [List.length_cons] at h
    obtain ⟨m1, m2, _⟩ := msin_table msin
    unfold dltExtendedHeader extAt
    simp (disch := (first | omega | (simp only [List.length_drop]; omega))) only [beU8,
      PRes.andThen_ok, zts4, m1, m2, List.getD_cons_zero, List.getD_cons_succ, List.drop_succ_cons,
      List.drop_zero, List.drop_drop]

theorem extHeaderOf_eq (bs : Bytes) :
    Spec.extHeaderOf bs
      = if Spec.bit (bs.headD 0#8) 0 then
          some (extAt (bs.drop (Spec.stdHeaderLen (bs.headD 0#8))))
        else none := by
  unfold Spec.extHeaderOf extAt
  simp only [List.getD_eq_getElem?_getD, List.getElem?_drop, Nat.add_zero, Spec.at4, List.drop_drop]

theorem optExtHeader_exact (bs : Bytes) (h : Spec.allHeadersLen (bs.headD 0#8) ≤ bs.length) :
    (if Spec.bit (bs.headD 0#8) 0 = true then
        (dltExtendedHeader (bs.drop (Spec.stdHeaderLen (bs.headD 0#8)))).map some
      else PRes.ok none (bs.drop (Spec.stdHeaderLen (bs.headD 0#8))))
      = .ok (Spec.extHeaderOf bs) (bs.drop (Spec.allHeadersLen (bs.headD 0#8)))
    ∧ ∀ eh, Spec.extHeaderOf bs = some eh → eh.wf = true := by
  rw [extHeaderOf_eq]
  unfold Spec.allHeadersLen at h ⊢
  by_cases c : Spec.bit (bs.headD 0#8) 0 = true
  · rw [if_pos c] at h
    have h10 : 10 ≤ (bs.drop (Spec.stdHeaderLen (bs.headD 0#8))).length := by
      rw [List.length_drop]; omega
    obtain ⟨eh, he, hwf⟩ := dltExtendedHeader_takes.long h10
    rw [dltExtendedHeader_exact _ h10] at he
    injection he with he _
    rw [if_pos c, if_pos c, if_pos c, dltExtendedHeader_exact _ h10, List.drop_drop]
    exact ⟨rfl, fun eh' h' => by cases h'; rw [he]; exact hwf⟩
  · rw [if_neg c, if_neg c, if_neg c, Nat.add_zero]
    exact ⟨rfl, fun eh' h' => by cases h'⟩

theorem dltArgument_ne_panic (e : Endian) (i : Bytes) : dltArgument e i ≠ .panic :=
  (ParserImage.dltArgument_sat e i).ne_panic

theorem dltPayload_ne_panic (e : Endian) (i : Bytes) (verbose : Bool) (pl argc : Nat)
    (mt : Option MessageType) : dltPayload e i verbose pl argc mt ≠ .panic :=
  (ParserImage.dltPayload_sat e i verbose pl argc mt).ne_panic

private theorem validatedPayloadLength_eq (h : StandardHeader) (rem D A : Nat)
    (hD : h.overallLengthNat = D) (hlt : D < 65536)
    (hA : calculateAllHeadersLength h.headerTypeByte = A) (hle : A ≤ D) :
    validatedPayloadLength h rem
      = some (if D > rem then .incomplete (some (D - rem)) else .ok (D - A)) := by
  obtain ⟨h1, h2⟩ := StandardHeader.overallLength_of_lt hD hlt
  simp only [validatedPayloadLength, h1, h2, hA, Bool.false_eq_true, if_false]
  rw [if_neg (by omega)]
  by_cases hr : D > rem
  · have : D - rem ≠ 0 := by omega
    simp only [hr, if_true, needed, this, if_false]
  · simp only [hr, if_false]

def ParsedMessage.withStorage (sh : StorageHeader) : ParsedMessage → ParsedMessage
  | .item m => .item { m with storageHeader := some sh }
  | x => x

/-- last stage of `dlt_message_intern`, behind the headers: the filter decision, the payload
    slice and the payload parser (a stretch of the model's text, called by `msgBody`) -/
def msgFinish (so : Option StorageHeader) (header : StandardHeader)
    (extendedHeader : Option ExtendedHeader) (cfg : Option ProcessedFilter) (payloadLength : Nat)
    (afterHeaders : Bytes) : PRes ParsedMessage :=
  let verbose := match extendedHeader with | some eh => eh.verbose | none => false
  let argCount := match extendedHeader with | some eh => eh.argumentCount.toNat | none => 0
  let msgType := extendedHeader.map (·.messageType)
  if filteredOut extendedHeader cfg header.ecuId then
    (take payloadLength afterHeaders).andThen fun _ afterMessage =>
      .ok (.filteredOut payloadLength) afterMessage
  else
    (take payloadLength afterHeaders).andThen fun payloadBytes afterMessage =>
      match dltPayload header.endianness payloadBytes verbose payloadLength argCount
              msgType with
      | .ok payload _ =>
        .ok (.item { storageHeader := so
                     header := header
                     extendedHeader := extendedHeader
                     payload := payload }) afterMessage
      | .incomplete _ => .error
      | .error => .error
      | .failure => .failure
      | .panic => .panic

/-- middle stage of `dlt_message_intern`, behind the storage header: the two headers and the
    length check (a stretch of the model's text, tied to it by `dltMessageIntern_eq`) -/
def msgBody (so : Option StorageHeader) (afterStorageHeader : Bytes) (cfg : Option ProcessedFilter) :
    PRes ParsedMessage :=
  (dltStandardHeader afterStorageHeader).andThen fun header afterStorageAndNormalHeader =>
    match validatedPayloadLength header afterStorageHeader.length with
    | none => .panic
    | some payloadLengthRes =>
      (if header.hasExtendedHeader then (dltExtendedHeader afterStorageAndNormalHeader).map some
       else .ok none afterStorageAndNormalHeader).andThen fun extendedHeader afterHeaders =>
        match payloadLengthRes with
        | .incomplete n => .incomplete n
        | .hickup => .ok .invalid afterStorageAndNormalHeader
        | .ok payloadLength => msgFinish so header extendedHeader cfg payloadLength afterHeaders

theorem dltMessageIntern_eq (bs : Bytes) (f : Option ProcessedFilter) (w : Bool) :
    dltMessageIntern bs f w = (if w = true then dltStorageHeader bs
      else PRes.ok none bs).andThen fun s a => msgBody (s.map (·.1)) a f := rfl

theorem dltMessageIntern_true_eq (bs : Bytes) (f : Option ProcessedFilter) :
    dltMessageIntern bs f true =
      (dltStorageHeader bs).andThen fun s a => msgBody (s.map (·.1)) a f := rfl

theorem dltMessageIntern_false_eq (bs : Bytes) (f : Option ProcessedFilter) :
    dltMessageIntern bs f false = msgBody none bs f := rfl

theorem msgFinish_some (sh : StorageHeader) (hd : StandardHeader) (eho : Option ExtendedHeader)
    (f : Option ProcessedFilter) (pl : Nat) (ah : Bytes) :
    msgFinish (some sh) hd eho f pl ah
      = (msgFinish none hd eho f pl ah).map (ParsedMessage.withStorage sh) := by
  unfold msgFinish
  simp only []
  split
  · cases take pl ah <;> rfl
  · cases take pl ah with
    | ok pb am =>
      simp only [PRes.andThen_ok]
      generalize dltPayload _ _ _ _ _ _ = dp
      cases dp <;> rfl
    | _ => rfl

theorem msgBody_some (sh : StorageHeader) (body : Bytes) (f : Option ProcessedFilter) :
    msgBody (some sh) body f = (msgBody none body f).map (ParsedMessage.withStorage sh) := by
  unfold msgBody
  cases dltStandardHeader body with
  | ok h r =>
    simp only [PRes.andThen_ok]
    cases validatedPayloadLength h body.length with
    | none => rfl
    | some pl =>
      simp only []
      generalize (if h.hasExtendedHeader = true then (dltExtendedHeader r).map some
        else PRes.ok none r) = e
      cases e with
      | ok eo ah =>
        simp only [PRes.andThen_ok]
        cases pl with
        | ok n => exact msgFinish_some sh h eo f n ah
        | _ => rfl
      | _ => rfl
  | _ => rfl

theorem msgFinish_cases (so : Option StorageHeader) (hd : StandardHeader)
    (eho : Option ExtendedHeader) (f : Option ProcessedFilter) (pl : Nat) (ah : Bytes)
    (hl : pl ≤ ah.length) :
    (∃ res, msgFinish so hd eho f pl ah = .ok res (ah.drop pl) ∧ res ≠ .invalid
        ∧ (∀ n, res = .filteredOut n → n = pl)
        ∧ (∀ m, res = .item m → m.storageHeader = so))
    ∨ msgFinish so hd eho f pl ah = .error
    ∨ msgFinish so hd eho f pl ah = .failure := by
  unfold msgFinish
  simp only [take_of_le hl, PRes.andThen_ok]
  split
  · exact Or.inl ⟨_, rfl, fun hc => (by cases hc), fun n hn => (by cases hn; rfl),
      fun m hm => (by cases hm)⟩
  · split
    · exact Or.inl ⟨_, rfl, fun hc => (by cases hc), fun n hn => (by cases hn),
        fun m hm => (by cases hm; rfl)⟩
    · exact Or.inr (Or.inl rfl)
    · exact Or.inr (Or.inl rfl)
    · exact Or.inr (Or.inr rfl)
    · rename_i heq
      exact absurd heq (dltPayload_ne_panic _ _ _ _ _ _)

theorem msgFinish_filtered {so : Option StorageHeader} {hd : StandardHeader}
    {eho : Option ExtendedHeader} {pl : Nat} {ah r : Bytes} {m : Message}
    (h : msgFinish so hd eho none pl ah = .ok (.item m) r) (cfg : ProcessedFilter) :
    m.header = hd ∧ msgFinish so hd eho (some cfg) pl ah =
      .ok (if filteredOut m.extendedHeader (some cfg) m.header.ecuId
           then .filteredOut pl else .item m) r := by
  unfold msgFinish at h ⊢
  simp only [] at h ⊢
  split at h
  · obtain ⟨_, _, _, h⟩ := andThen_ok_inv h
    cases h
  · obtain ⟨pb, am, h1, h⟩ := andThen_ok_inv h
    rw [h1, PRes.andThen_ok, PRes.andThen_ok]
    split at h
    · injection h with e1 e2
      injection e1 with e1
      subst e1 e2
      exact ⟨rfl, by split <;> rfl⟩
    all_goals cases h

/-- what the headers the Spec reads by offset guarantee in a complete message of `d` bytes at
    the start of `bs` -/
structure HeadersOf (bs : Bytes) (d : Nat) : Prop where
  payloadLength : (Spec.stdHeaderOf bs).payloadLength.toNat = d - Spec.allHeadersLen (bs.headD 0#8)
  overall : (Spec.stdHeaderOf bs).overallLengthNat = d
  version : (Spec.stdHeaderOf bs).version.toNat < 8
  ecuId : ∀ id, (Spec.stdHeaderOf bs).ecuId = some id → idOk id = true
  hasExt : (Spec.stdHeaderOf bs).hasExtendedHeader = (Spec.extHeaderOf bs).isSome
  extWf : ∀ eh, Spec.extHeaderOf bs = some eh → eh.wf = true

theorem msgBody_closed (so : Option StorageHeader) (bs : Bytes) (f : Option ProcessedFilter) :
    match Spec.framing bs with
    | .incomplete b =>
      ∃ hint, msgBody so bs f = .incomplete hint ∧ ∀ n, hint = some n → 1 ≤ n ∧ n ≤ b
    | .reject => msgBody so bs f = .error
    | .complete d =>
      HeadersOf bs d
        ∧ msgBody so bs f = msgFinish so (Spec.stdHeaderOf bs) (Spec.extHeaderOf bs) f
            (d - Spec.allHeadersLen (bs.headD 0#8)) (bs.drop (Spec.allHeadersLen (bs.headD 0#8))) := by
  unfold msgBody
  rcases dltStandardHeader_closed bs with ⟨b, n, hf, hn, h1, h2⟩ | ⟨hf, he⟩ | ⟨c1, c2, he, hf⟩
  · rw [hf, hn]
    exact ⟨some n, rfl, fun m hm => by cases hm; exact ⟨h1, h2⟩⟩
  · rw [hf, he]
    rfl
  · have hD := declaredLen_lt bs
    have hA : Spec.allHeadersLen (bs.headD 0#8)
        = Spec.stdHeaderLen (bs.headD 0#8) + (if Spec.bit (bs.headD 0#8) 0 then 10 else 0) := rfl
    rw [hf, he, PRes.andThen_ok]
    obtain ⟨p1, p3, p4, p5⟩ := stdHeaderOf_facts bs c1 (by omega)
    have p2 : (Spec.stdHeaderOf bs).hasExtendedHeader = Spec.bit (bs.headD 0#8) 0 := rfl
    rw [validatedPayloadLength_eq _ bs.length _ _ p1 hD p3 (by omega), p2]
    simp only []
    by_cases l1 : bs.length < Spec.allHeadersLen (bs.headD 0#8)
    · obtain ⟨k, hk, hk1, hk2⟩ := (dltExtendedHeader_takes.opt (Spec.bit (bs.headD 0#8) 0)).short
        (i := bs.drop (Spec.stdHeaderLen (bs.headD 0#8))) (by rw [List.length_drop]; omega)
      rw [hk, PRes.andThen_incomplete, if_pos l1]
      rw [List.length_drop] at hk2
      clear p1 p3 hD
      exact ⟨some k, rfl, fun m hm => by cases hm; exact ⟨hk1, by omega⟩⟩
    · obtain ⟨he, hwf⟩ := optExtHeader_exact bs (by omega)
      rw [he, PRes.andThen_ok, if_neg l1]
      by_cases c3 : bs.length < Spec.declaredLen bs
      · rw [if_pos c3, if_pos c3]
        exact ⟨_, rfl, fun m hm => by cases hm; omega⟩
      · rw [if_neg c3, if_neg c3]
        have := (StandardHeader.overallLengthNat_eq _).symm.trans p1
        refine ⟨⟨Nat.eq_sub_of_add_eq' (p3 ▸ this), p1, p4, p5, ?_, hwf⟩, rfl⟩
        rw [p2, extHeaderOf_eq]
        cases Spec.bit (bs.headD 0#8) 0 <;> rfl

theorem msgBody_ok_inv {so : Option StorageHeader} {bs : Bytes} {f : Option ProcessedFilter}
    {res : ParsedMessage} {r : Bytes} (h : msgBody so bs f = .ok res r) :
    ∃ d, Spec.framing bs = .complete d ∧ HeadersOf bs d
      ∧ msgFinish so (Spec.stdHeaderOf bs) (Spec.extHeaderOf bs) f
          (d - Spec.allHeadersLen (bs.headD 0#8))
          (bs.drop (Spec.allHeadersLen (bs.headD 0#8))) = .ok res r := by
  have hc := msgBody_closed so bs f
  cases hf : Spec.framing bs <;> rw [hf] at hc
  · obtain ⟨_, hh, _⟩ := hc
    rw [hh] at h
    cases h
  · rw [show msgBody so bs f = .error from hc] at h
    cases h
  · exact ⟨_, rfl, hc.1, hc.2 ▸ h⟩

theorem dltMessageIntern_filtered (bs : Bytes) (cfg : ProcessedFilter) (w : Bool) (m : Message)
    (r : Bytes) (h : dltMessageIntern bs none w = .ok (.item m) r) :
    dltMessageIntern bs (some cfg) w =
      .ok (if filteredOut m.extendedHeader (some cfg) m.header.ecuId
           then .filteredOut m.header.payloadLength.toNat else .item m) r := by
  rw [dltMessageIntern_eq] at h ⊢
  obtain ⟨sho, after, h1, h⟩ := andThen_ok_inv h
  rw [h1, PRes.andThen_ok]
  obtain ⟨d, hf, H, hm⟩ := msgBody_ok_inv h
  have hc := msgBody_closed (sho.map (·.1)) after (some cfg)
  rw [hf] at hc
  obtain ⟨hh, hm'⟩ := msgFinish_filtered hm cfg
  rw [hh] at hm'
  rw [hc.2, hh, H.payloadLength]
  exact hm'

end Dlt
