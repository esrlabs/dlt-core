/-
  C02, encoding: the writer model produces exactly the Spec's layout for well-formed messages.
-/
import DltVerif.Lemmas.CodecNum
import DltVerif.Lemmas.RoundTripMsg

namespace Dlt
open Dlt.Spec

theorem lenOf_eq (e : Endian) {s : Bytes} (h : textOk s = true) :
    lenOf e s = e.bytes 2 (lenPlus1 s.length) := by
  unfold lenOf
  rw [digits_eq, lenPlus1_eq (textOk_inv h).2.2]

theorem asU16_of_le {n : Nat} (h : n ≤ 65535) : asU16 n = n :=
  Nat.mod_eq_of_lt (Nat.lt_succ_of_le h)

theorem bytes_one (e : Endian) (v : BitVec 8) : e.bytes 1 v.toNat = [v] := by
  cases e <;> simp [Endian.bytes, bytesBE, bytesLE]

theorem layoutArgument_eq (e : Endian) (a : Argument) (h : a.wf = true) :
    a.asBytes e = layoutArgument e a := by
  obtain ⟨⟨kind, coding, vari, trai⟩, name, unit, fp, value⟩ := a
  simp only [Argument.wf, Bool.and_eq_true] at h
  obtain ⟨hc, h⟩ := h
  have hti : ∀ k, TypeInfo.asBytes e ⟨k, coding, vari, trai⟩ = digits e 4 (tiWord ⟨k, coding, vari, trai⟩) := by
    intro k
    rw [digits_eq, tiWord_eq]; rfl
  -- writer and layout concatenate the same pieces and word some of them differently: the type-info word (`hti`), the
  -- length field of a text (`lenOf_eq`) or of raw data (`asU16_of_le`), a number (`digits_eq`)
  split at h
  -- rows of the `match` in `Argument.wf`: h_1 = bool, h_2..h_17 = the 16 numeric rows, h_18 = string,
  -- h_19 = raw, h_20 = catch-all
  case h_20 => exact absurd h (by simp)
  case h_1 =>
    simp only [Bool.and_eq_true] at h
    obtain ⟨h1, _⟩ := h
    rcases name with _ | n
    · simp [Argument.asBytes, layoutArgument, bufTypeInfoName, hti]
    · have hn := (by simpa [optText] using h1 : vari = true ∧ textOk n = true).2
      simp [Argument.asBytes, layoutArgument, bufTypeInfoName, hti, lenOf_eq e hn]
  case h_18 s =>
    simp only [Bool.and_eq_true] at h
    obtain ⟨⟨hn, _⟩, hs⟩ := h
    cases vari <;> rcases name with _ | n <;> simp [optText] at hn
    · simp [Argument.asBytes, layoutArgument, hti, lenOf_eq e hs]
    · simp [Argument.asBytes, layoutArgument, hti, lenOf_eq e hs, lenOf_eq e hn]
  case h_19 b =>
    simp only [Bool.and_eq_true, decide_eq_true_eq] at h
    obtain ⟨⟨hn, _⟩, hb⟩ := h
    cases vari <;> rcases name with _ | n <;> simp [optText] at hn
    · simp [Argument.asBytes, layoutArgument, hti, digits_eq, asU16_of_le hb]
    · simp [Argument.asBytes, layoutArgument, hti, digits_eq, asU16_of_le hb, lenOf_eq e hn]
  all_goals
    simp only [Bool.and_eq_true] at h
    obtain ⟨h1, h2⟩ := h
    cases vari <;> rcases name with _ | n <;> rcases unit with _ | u <;>
      simp [optText] at h1 h2
    · simp [Argument.asBytes, layoutArgument, bufTypeInfoNameUnit, hti, digits_eq,
        putSignedValue, putUnsignedValue, putFloatValue, bytes_one]
    · simp [Argument.asBytes, layoutArgument, bufTypeInfoNameUnit, hti, digits_eq,
        putSignedValue, putUnsignedValue, putFloatValue, lenOf_eq e h1, lenOf_eq e h2, bytes_one]

theorem layoutPayload_eq (e : Endian) (p : PayloadContent) (eh : Option ExtendedHeader)
    (h : payloadConsistent p eh = true) : p.asBytes e = layoutPayload e p := by
  cases p with
  | verbose args =>
    obtain ⟨_, _, _, hall⟩ := (payloadConsistent_iff _ _).1 h
    simp only [PayloadContent.asBytes, layoutPayload]
    congr 1
    apply List.map_congr_left
    intro a ha
    exact layoutArgument_eq e a (List.all_eq_true.mp hall a ha)
  | nonVerbose id data => simp [PayloadContent.asBytes, layoutPayload, digits_eq]
  | controlMsg t data =>
    simp only [PayloadContent.asBytes, layoutPayload]
    cases t <;> rfl
  | networkTrace slices =>
    obtain ⟨_, _, _, hall⟩ := (payloadConsistent_iff _ _).1 h
    simp only [PayloadContent.asBytes, layoutPayload]
    congr 1
    apply List.map_congr_left
    intro s hs
    have hle : s.length ≤ 65535 := by simpa using List.all_eq_true.mp hall s hs
    have hraw : TYPE_INFO_RAW_FLAG.toNat = 1024 := by decide
    simp only [digits_eq, asU16_of_le hle, hraw]

theorem length_idField (s : Bytes) (h : s.length ≤ 4) : (idField s).length = 4 := by
  rw [idField, List.length_append, List.length_replicate, Nat.add_sub_of_le h]

theorem layoutStorage_eq (sh : Option StorageHeader) : layoutStorage sh = shBytes sh := by
  cases sh with
  | none => rfl
  | some sh => simp [layoutStorage, shBytes, StorageHeader.asBytes, DLT_PATTERN, digitsLE_eq, idField,
      putZeroTerminatedString]

theorem layoutExtended_eq (eh : Option ExtendedHeader) (h : ∀ x, eh = some x → x.wf = true) :
    layoutExtended eh = ehBytes eh := by
  cases eh with
  | none => rfl
  | some x =>
    have hw := h x rfl
    simp only [ExtendedHeader.wf, Bool.and_eq_true] at hw
    simp [layoutExtended, ehBytes, ExtendedHeader.asBytes, ExtendedHeader.msin,
      (msin_encode x.messageType hw.2 x.verbose).2.2, idField, putZeroTerminatedString]

theorem StandardHeader.asBytes_layout (h : StandardHeader) :
    h.asBytes = [h.headerTypeByte, h.messageCounter] ++ bytesBE 2 h.overallLength ++ layoutOptional h := by
  simp only [StandardHeader.asBytes, layoutOptional, digitsLE_eq, bytesBE, List.append_assoc]
  cases h.ecuId <;> cases h.sessionId <;> cases h.timestamp <;> rfl

end Dlt
