/-
  C18: the model's truncated double-precision product is the number the Spec (Spec/Fixed.lean)
  prescribes through `nearestDouble`, on every input (`truncatedProduct_spec`).
-/
import DltVerif.Lemmas.NearestDouble

namespace Dlt
open Dlt.Spec

theorem f32ToF64_of_dyadic (q : BitVec 32) (qneg : Bool) (m : Nat) (e : Int)
    (h : f32Dyadic q.toNat = some (qneg, m, e)) : f32ToF64 q = .fin qneg m e := by
  unfold f32Dyadic at h
  unfold f32ToF64
  have hneg : q.getLsbD 31 = decide (q.toNat / 2 ^ 31 % 2 = 1) := by
    rw [BitVec.getLsbD, Nat.testBit_eq_decide_div_mod_eq]
  simp only [Nat.shiftRight_eq_div_pow, hneg] at h ⊢
  split at h
  · cases h
  · split at h <;> cases h <;> simp [*]

/-- `floor (q * 2^E)` for an integer exponent -/
def floorScale (q : Nat) (E : Int) : Nat := if E ≥ 0 then q * 2 ^ E.toNat else q / 2 ^ (-E).toNat

theorem floorScale_mul_pow (q K : Nat) (e : Int) :
    floorScale q ((K : Int) + e) = floorScale (q * 2 ^ K) e := by
  unfold floorScale
  by_cases he : e ≥ 0
  · rw [if_pos (Int.add_nonneg (Int.natCast_nonneg K) he), if_pos he,
      Int.toNat_add (Int.natCast_nonneg K) he, Int.toNat_natCast, Nat.pow_add, Nat.mul_assoc]
  · rw [if_neg he]
    by_cases hE : (K : Int) + e ≥ 0
    · -- K ≥ -e: exact division
      have hk : (-e).toNat ≤ K := by omega
      rw [if_pos hE, Nat.mul_div_assoc _ (Nat.pow_dvd_pow 2 hk),
        Nat.pow_div hk Nat.two_pos, show ((K : Int) + e).toNat = K - (-e).toNat by omega]
    · rw [if_neg hE, show (-e).toNat = (-((K : Int) + e)).toNat + K by omega, Nat.pow_add,
        Nat.mul_div_mul_right _ _ (Nat.two_pow_pos K)]

theorem F64.toU64_fin_false (m : Nat) (e : Int) :
    (F64.fin false m e).toU64 = min (floorScale m e) (2 ^ 64 - 1) := by
  simp only [F64.toU64, floorScale, Bool.false_eq_true, if_false, Nat.shiftLeft_eq,
    Nat.shiftRight_eq_div_pow]
  generalize (if e ≥ 0 then _ else _) = t
  split <;> omega

theorem toU64_fin (neg : Bool) (q : Nat) (E : Int) (h : neg = true → q = 0)
    (hlt : floorScale q E < 2 ^ 64) : (F64.fin neg q E).toU64 = floorScale q E := by
  cases neg
  · rw [F64.toU64_fin_false]
    exact Nat.min_eq_left (Nat.le_pred_of_lt hlt)
  · rw [h rfl]
    unfold floorScale
    split <;> simp [F64.toU64]

/-- the double-precision product of the model, truncated toward zero, is the number the IEEE
    definition of the Spec prescribes: `value as f64` is `nearestDouble |v|`, the product `y` is
    `nearestDouble` of the exact product of the two doubles, scaled by the quantization's
    exponent -/
theorem truncatedProduct_spec (v : Int) (q : BitVec 32) (qneg : Bool) (m : Nat) (e : Int) (y : Nat)
    (hq : f32Dyadic q.toNat = some (qneg, m, e))
    (hy : nearestDouble (nearestDouble v.natAbs * m) = y)
    (hs : ¬ (y ≠ 0 ∧ ((decide (v < 0)) != qneg) = true)) (hp : floorScale y e < 2 ^ 64) :
    truncatedProduct v q = floorScale y e := by
  -- the value converts to the nearest double
  obtain ⟨k1, q1, r1, e1⟩ := round53_value v.natAbs 0
  -- the product of the two doubles is rounded to the nearest double
  obtain ⟨k2, q2, r2, e2⟩ := round53_value (q1 * m) ((0 : Int) + (k1 : Int) + e)
  -- `y = q2 * 2^(k2 + k1)`: the power of two the first rounding left passes through the second one
  rw [← e1, Nat.mul_assoc, Nat.mul_comm (2 ^ k1) m, ← Nat.mul_assoc, nearestDouble_scale, ← e2,
    Nat.mul_assoc, ← Nat.pow_add] at hy
  subst hy
  unfold truncatedProduct
  rw [f32ToF64_of_dyadic q qneg m e hq]
  simp only [intToF64, r1, F64.mul, r2]
  have hE : (0 : Int) + (k1 : Int) + e + (k2 : Int) = ((k2 + k1 : Nat) : Int) + e := by omega
  rw [hE, toU64_fin _ _ _ _ (by rw [floorScale_mul_pow]; exact hp), floorScale_mul_pow]
  -- sign: not negative, or zero
  exact fun hb => Decidable.byContradiction fun hz =>
    hs ⟨Nat.mul_ne_zero hz (Nat.pos_iff_ne_zero.mp (Nat.pow_pos (by omega))), hb⟩

end Dlt
