/-
  C11: events a loader passes over may stand anywhere between elements - also between the
  children of a PDU, a FRAME or an instance (pretty-printed files, comments, vendor elements).
  `Spec.significant` drops them; the reader cannot tell a file from its significant events.
-/
import DltVerif.Lemmas.FibexLoops
import DltVerif.Lemmas.FibexLocal

namespace Dlt.Fibex
open Dlt.Fibex.Spec

theorem significant_start_other (a : List Attr) (rest : List XmlEv) :
    significant (.start .other a :: rest) = significant rest := by
  cases rest <;> simp [significant]

/-- `significant` drops what `read_event` passes over (`readEvent_gap`); on an event it keeps,
    `read_event` does the same on either side (`readEvent_cons`) -/
theorem readEvent_significant (st : RState) (evs : List XmlEv) :
    readEvent st (significant evs)
      = ((readEvent st evs).1, (readEvent st evs).2.1, significant (readEvent st evs).2.2) := by
  have hnil : ∀ st, readEvent st (significant [])
      = ((readEvent st []).1, (readEvent st []).2.1, significant (readEvent st []).2.2) := by
    simp [significant, readEvent_nil]
  -- the cases are numbered by the clauses of `Spec.significant`: 1 `[]`, 2 `.other`, 3 `.text`, 4 `.err`, 5/6 `.end_`,
  -- 7/8 `.empty`, 9/10 a last `.start`, 11-13 a `.start` with an event behind it; in 5, 7, 9, 11 the tag is `other`
  fun_induction significant evs generalizing st
  case case1 => exact hnil st
  -- a gap event: passed over on the right, absent on the left
  case case2 ih | case3 ih | case5 ih | case7 ih | case11 ih => rw [readEvent_gap _ _ _ rfl]; exact ih st
  case case9 => rw [readEvent_gap _ _ _ rfl]; exact hnil st
  -- an event that is kept: the same act, on the significant remainder and on the remainder
  case case4 ih | case6 ih | case8 ih =>
    rw [readEvent_cons _ _ _ rfl, readEvent_cons _ _ _ rfl]; exact Act.run_invisible significant _ _ ih
  case case13 t a _ _ _ h ih =>
    have ht : textStart (.start t a) = false := by simpa [textStart] using h
    rw [readEvent_cons _ _ _ ht, readEvent_cons _ _ _ ht]; exact Act.run_invisible significant _ _ ih
  -- the start tag of a text element: the event behind it is kept as it is
  case case12 h ih =>
    rw [readEvent_cons_text st _ _ h (readText_cons _ _), readEvent_cons_text st _ _ h (readText_cons _ _)]
    exact Act.run_invisible significant _ _ ih
  case case10 t a _ =>
    by_cases h : readsText t = true
    · rw [readEvent_cons_text st t a h (rfl : readText [] = (none, []))]
      simpa [significant] using Act.run_invisible significant _ [] hnil
    · have ht : textStart (.start t a) = false := by simpa [textStart] using h
      rw [readEvent_cons _ _ _ ht]
      simpa [significant] using Act.run_invisible significant _ [] hnil

theorem significant_gap (g : List XmlEv) (hg : g.all isGap = true) (Y : List XmlEv) :
    significant (g ++ Y) = significant Y := by
  induction g with
  | nil => rfl
  | cons x g ih =>
    simp only [List.all_cons, Bool.and_eq_true] at hg
    rcases isGap_cases x hg.1 with rfl | ⟨t, rfl⟩ | ⟨a, rfl⟩ | ⟨a, rfl⟩ | rfl <;>
      simpa [significant, significant_start_other] using ih hg.2

/-- `significant` looks one event ahead only behind a start tag: it splits behind an end tag -/
theorem significant_append_end (l : List XmlEv) (t : Tag) (Y : List XmlEv) :
    significant (l ++ .end_ t :: Y) = significant (l ++ [.end_ t]) ++ significant Y := by
  by_cases ht : t = .other <;> fun_induction significant l <;> simp_all [significant]
  -- left: `t = other` behind a start tag of another kind, where `significant` looks at `readsText`
  split <;> rfl

theorem significant_renderElem (e : Elem) (Y : List XmlEv) :
    significant (renderElem e ++ Y) = significant (renderElem e) ++ significant Y := by
  have h : ∃ l t, renderElem e = l ++ [.end_ t] := by cases e <;> exact ⟨_, _, rfl⟩
  obtain ⟨l, t, h⟩ := h
  rw [h, List.append_assoc, List.singleton_append, significant_append_end]

theorem significant_gapped (d : List (List XmlEv × Elem)) (hg : ∀ x ∈ d, x.1.all isGap = true)
    {Z Z' : List XmlEv} (hZ : significant Z = significant Z') :
    significant ((d.map fun x => x.1 ++ renderElem x.2).flatten ++ Z)
      = significant (((d.map (·.2)).map renderElem).flatten ++ Z') := by
  induction d with
  | nil => exact hZ
  | cons x d ih =>
    simp only [List.map_cons, List.flatten_cons, List.append_assoc]
    rw [significant_gap _ (hg x (List.mem_cons_self ..)), significant_renderElem,
      ih (fun y hy => hg y (List.mem_cons_of_mem _ hy)), ← significant_renderElem]

theorem significant_renderGapped (d : List (List XmlEv × Elem)) (tail : List XmlEv)
    (hg : ∀ x ∈ d, x.1.all isGap = true) (ht : tail.all isGap = true) :
    significant (renderGapped d tail) = significant (render (d.map (·.2))) := by
  unfold renderGapped render
  simp only [List.append_assoc, List.cons_append, List.nil_append, significant, significant_start_other]
  exact significant_gapped d hg (significant_gap tail ht _)

/-- the file loop cannot tell a file from its significant events -/
theorem readFiles_significant (files : List (List XmlEv)) (acc : Acc) :
    readFiles (files.map fun evs => some (significant evs)) acc = readFiles (files.map some) acc :=
  readFiles_invisible readEvent_significant files acc

end Dlt.Fibex
