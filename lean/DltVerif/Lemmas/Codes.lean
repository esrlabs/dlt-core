/-
  The header-type byte (HTYP) and the message-info byte (MSIN) as finite tables, each row set
  once: what the parser reads off an arbitrary byte (decode side, by the Spec's weights) and what
  the writer's byte of given fields decodes to and weighs (encode side); the control service id
  (two short case analyses, no table).
-/
import DltVerif.Spec.Codec
import DltVerif.Spec.WF

namespace Dlt

/-- in the order of the conjuncts (they are used by position): four flag tests and the two header
    lengths by the Spec's weights; (7, 8) the lengths and the low five bits do not depend on the
    version; the byte-order flag and the version field -/
theorem htyp_table : ∀ b : BitVec 8,
    (b &&& WITH_ECU_ID_FLAG != 0#8) = Spec.bit b 2
    ∧ (b &&& WITH_SESSION_ID_FLAG != 0#8) = Spec.bit b 3
    ∧ (b &&& WITH_TIMESTAMP_FLAG != 0#8) = Spec.bit b 4
    ∧ (b &&& WITH_EXTENDED_HEADER_FLAG != 0#8) = Spec.bit b 0
    ∧ calculateStandardHeaderLength b = Spec.stdHeaderLen b
    ∧ calculateAllHeadersLength b = Spec.allHeadersLen b
    ∧ calculateAllHeadersLength b = calculateAllHeadersLength (b &&& 0x1F#8)
    ∧ ((b &&& 0b111#8) <<< 5) &&& 0x1F#8 = 0#8
    ∧ (b &&& BIG_ENDIAN_FLAG != 0#8) = Spec.bit b 1
    ∧ (b >>> 5) &&& 0b111#8 = BitVec.ofNat 8 (b.toNat / 32) := by
  decide +kernel

theorem stdHeaderLen_eq (b : BitVec 8) : calculateStandardHeaderLength b = Spec.stdHeaderLen b :=
  (htyp_table b).2.2.2.2.1

/-- the header lengths of a re-assembled header-type byte, for every version field: the version
    sits above the five flag bits, which alone decide the lengths -/
theorem calculateAllHeadersLength_standardHeaderType (ext ecu sid tms : Bool) (e : Endian)
    (v : BitVec 8) :
    calculateAllHeadersLength (standardHeaderType ext e ecu sid tms v)
      = HEADER_MIN_LENGTH + (if ecu then 4 else 0) + (if sid then 4 else 0) + (if tms then 4 else 0)
        + (if ext then EXTENDED_HEADER_LENGTH else 0) := by
  rw [(htyp_table _).2.2.2.2.2.2.1]
  unfold standardHeaderType
  simp only []
  rw [BitVec.and_or_distrib_right, (htyp_table v).2.2.2.2.2.2.2.1, BitVec.or_zero]
  cases ext <;> cases ecu <;> cases sid <;> cases tms <;> cases e <;> decide

theorem StandardHeader.overallLengthNat_eq (h : StandardHeader) :
    h.overallLengthNat = calculateAllHeadersLength h.headerTypeByte + h.payloadLength.toNat := by
  rw [StandardHeader.headerTypeByte, calculateAllHeadersLength_standardHeaderType,
    StandardHeader.overallLengthNat]

/-- all 2^5 * 8 field combinations: the byte has the Spec's weight, and the parser's tests give
    the fields back -/
theorem htyp_encode_table : ∀ (ext ecu sid tms big : Bool) (v : Fin 8),
    let b := standardHeaderType ext (if big then Endian.big else Endian.little) ecu sid tms
      (BitVec.ofNat 8 v)
    (b &&& WITH_ECU_ID_FLAG != 0#8) = ecu ∧
    (b &&& WITH_SESSION_ID_FLAG != 0#8) = sid ∧
    (b &&& WITH_TIMESTAMP_FLAG != 0#8) = tms ∧
    (b &&& WITH_EXTENDED_HEADER_FLAG != 0#8) = ext ∧
    (if (b &&& BIG_ENDIAN_FLAG != 0#8) = true then Endian.big else Endian.little)
      = (if big then Endian.big else Endian.little) ∧
    ((b >>> 5) &&& 0b111#8) = BitVec.ofNat 8 v ∧
    BitVec.ofNat 8 ((if ext then 1 else 0) + 2 * (if big then 1 else 0) + 4 * (if ecu then 1 else 0)
        + 8 * (if sid then 1 else 0) + 16 * (if tms then 1 else 0) + 32 * v) = b := by
  decide +kernel

/-- the table on the header-type byte of a header -/
theorem StandardHeader.headerTypeByte_fields (h : StandardHeader) (hv : h.version.toNat < 8) :
    (h.headerTypeByte &&& WITH_ECU_ID_FLAG != 0#8) = h.ecuId.isSome ∧
    (h.headerTypeByte &&& WITH_SESSION_ID_FLAG != 0#8) = h.sessionId.isSome ∧
    (h.headerTypeByte &&& WITH_TIMESTAMP_FLAG != 0#8) = h.timestamp.isSome ∧
    (h.headerTypeByte &&& WITH_EXTENDED_HEADER_FLAG != 0#8) = h.hasExtendedHeader ∧
    (if (h.headerTypeByte &&& BIG_ENDIAN_FLAG != 0#8) = true then Endian.big else Endian.little)
      = h.endianness ∧
    ((h.headerTypeByte >>> 5) &&& 0b111#8) = h.version ∧
    BitVec.ofNat 8 (Spec.htypOf h) = h.headerTypeByte := by
  have key := fun big => htyp_encode_table h.hasExtendedHeader h.ecuId.isSome h.sessionId.isSome
    h.timestamp.isSome big ⟨h.version.toNat, hv⟩
  simp only [BitVec.ofNat_toNat, BitVec.setWidth_eq] at key
  unfold StandardHeader.headerTypeByte Spec.htypOf
  cases h.endianness
  · exact key false
  · exact key true

/-- decode side: type and verbose flag by the Spec's weights, and every type the byte decodes to
    is canonical -/
theorem msin_table : ∀ b : BitVec 8,
    MessageType.ofMsin b = Spec.msinType b
    ∧ (b &&& VERBOSE_FLAG != 0#8) = decide (b.toNat % 2 = 1)
    ∧ (MessageType.ofMsin b).canonical = true := by
  decide +kernel

/-- encode side, for one message type and verbose flag: the writer's byte decodes to them and has
    the Spec's weight -/
abbrev MsinEncodes (mt : MessageType) (vb : Bool) : Prop :=
  MessageType.ofMsin (mt.toU8 ||| (if vb then 1#8 else 0#8)) = mt
  ∧ ((mt.toU8 ||| (if vb then 1#8 else 0#8)) &&& VERBOSE_FLAG != 0#8) = vb
  ∧ BitVec.ofNat 8 (Spec.msinByte vb mt) = mt.toU8 ||| (if vb then 1#8 else 0#8)

/-- the four families with a free code byte -/
def msinFamily (f : Fin 4) (n : BitVec 8) : MessageType :=
  match f with
  | 0 => .log (.invalid n)
  | 1 => .applicationTrace (.invalid n)
  | 2 => .networkTrace (.userDefined n)
  | 3 => .control (.unknown n)

theorem msin_family : ∀ (f : Fin 4) (n : BitVec 8) (vb : Bool),
    (msinFamily f n).canonical = true → MsinEncodes (msinFamily f n) vb := by
  decide +kernel

theorem msin_unknown : ∀ mstp : BitVec 8, (4 ≤ mstp.toNat ∧ mstp.toNat ≤ 7) →
    ∀ mtin : BitVec 8, mtin.toNat ≤ 15 → ∀ vb, MsinEncodes (.unknown mstp mtin) vb := by
  decide +kernel

theorem msin_encode (mt : MessageType) (h : mt.canonical = true) (vb : Bool) : MsinEncodes mt vb := by
  cases mt with
  | log l =>
    cases l with
    | invalid n => exact msin_family 0 n vb h
    | _ => cases vb <;> decide +kernel
  | applicationTrace t =>
    cases t with
    | invalid n => exact msin_family 1 n vb h
    | _ => cases vb <;> decide +kernel
  | networkTrace t =>
    cases t with
    | userDefined n => exact msin_family 2 n vb h
    | _ => cases vb <;> decide +kernel
  | control t =>
    cases t with
    | unknown n => exact msin_family 3 n vb h
    | _ => cases vb <;> decide +kernel
  | unknown mstp mtin =>
    simp only [MessageType.canonical, decide_eq_true_eq] at h
    exact msin_unknown mstp ⟨h.1, h.2.1⟩ mtin h.2.2 vb

theorem fromValue_canonical (b : BitVec 8) : (ControlType.fromValue b).canonicalValue = true := by
  unfold ControlType.fromValue
  split
  · rfl
  · split
    · rfl
    · rename_i h1 h2
      simp only [ControlType.canonicalValue, decide_eq_true_eq]
      exact ⟨fun h => h1 (BitVec.eq_of_toNat_eq h), fun h => h2 (BitVec.eq_of_toNat_eq h)⟩

theorem ControlType.fromValue_value (t : ControlType) (h : t.canonicalValue = true) :
    ControlType.fromValue t.value = t := by
  cases t with
  | request => decide
  | response => decide
  | unknown n =>
    simp only [ControlType.canonicalValue, decide_eq_true_eq] at h
    have h1 : n ≠ CTRL_TYPE_REQUEST := by
      intro hn; subst hn; exact h.1 (by decide)
    have h2 : n ≠ CTRL_TYPE_RESPONSE := by
      intro hn; subst hn; exact h.2 (by decide)
    simp [ControlType.fromValue, ControlType.value, h1, h2]

end Dlt
