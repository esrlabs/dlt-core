/-
  C18: the rounding of the double-precision model (`round53`) is round-to-nearest, ties to
  even, onto a 53-bit significand - the rounding IEEE-754 prescribes for `f64` results
  (binary64, default rounding mode; exponent range aside, which the values of C18 never leave).

  Both the model's `round53` and the Spec's `nearestDouble` (Lemmas/NearestDouble.lean) are
  `rneQuot u` for the unit `u = 2^(bitLen m - 53)`; what is proved about rounding is proved
  about `rneQuot` for an arbitrary unit, and 53 and the powers of two enter only in
  `round53_eq` / `nearestDouble_eq`.
-/
import DltVerif.Model.Fixed

namespace Dlt

theorem bitLen_bounds (m : Nat) (h : m ≠ 0) : 2 ^ (bitLen m - 1) ≤ m ∧ m < 2 ^ bitLen m := by
  unfold bitLen
  rw [if_neg h]
  exact ⟨by simpa using Nat.log2_self_le h, Nat.lt_log2_self⟩

/-- `n / u` rounded to nearest, a tie going to the even quotient -/
def rneQuot (u n : Nat) : Nat :=
  if 2 * (n % u) < u ∨ (2 * (n % u) = u ∧ n / u % 2 = 0) then n / u else n / u + 1

theorem rneQuot_bounds (u n : Nat) : n / u ≤ rneQuot u n ∧ rneQuot u n ≤ n / u + 1 := by
  unfold rneQuot
  split <;> omega

/-- `rneQuot u n * u` is a multiple of `u` nearest to `n`, and in a tie the quotient is even -/
theorem rneQuot_nearest (u n : Nat) (hu : 0 < u) :
    2 * n ≤ 2 * (rneQuot u n * u) + u ∧ 2 * (rneQuot u n * u) ≤ 2 * n + u
      ∧ ((2 * n = 2 * (rneQuot u n * u) + u ∨ 2 * (rneQuot u n * u) = 2 * n + u) →
          rneQuot u n % 2 = 0) := by
  have hdm := Nat.div_add_mod n u
  have hr := Nat.mod_lt n hu
  unfold rneQuot
  rw [Nat.mul_comm] at hdm
  generalize n / u = q at *
  generalize n % u = r at *
  split
  · generalize q * u = A at *
    omega
  · rw [Nat.add_mul, Nat.one_mul]
    generalize q * u = A at *
    omega

theorem rneQuot_mul (u q : Nat) (hu : 0 < u) : rneQuot u (q * u) = q := by
  unfold rneQuot
  rw [Nat.mul_mod_left, Nat.mul_div_cancel _ hu, if_pos (Or.inl (by omega))]

theorem rneQuot_scale (u n P : Nat) (hP : 0 < P) : rneQuot (u * P) (n * P) = rneQuot u n := by
  unfold rneQuot
  rw [Nat.mul_mod_mul_right, Nat.mul_div_mul_right _ _ hP, ← Nat.mul_assoc]
  simp only [Nat.mul_lt_mul_right hP, Nat.mul_left_inj (Nat.ne_of_gt hP)]

theorem rneQuot_one (n : Nat) : rneQuot 1 n = n := by
  have := rneQuot_mul 1 n (by omega)
  rwa [Nat.mul_one] at this

theorem round53_eq (m : Nat) (e : Int) :
    round53 m e = (rneQuot (2 ^ (bitLen m - 53)) m, e + ((bitLen m - 53 : Nat) : Int)) := by
  unfold round53
  by_cases hl : bitLen m ≤ 53
  · have hk : bitLen m - 53 = 0 := by omega
    simp [hl, hk, rneQuot_one]
  · obtain ⟨d, hd⟩ : ∃ d, bitLen m - 53 = d + 1 := ⟨bitLen m - 54, by omega⟩
    simp only [hl, if_false, hd, Nat.shiftRight_eq_div_pow, Nat.add_sub_cancel, rneQuot, Nat.pow_succ]
    generalize m / (2 ^ d * 2) = q
    generalize m % (2 ^ d * 2) = r
    generalize 2 ^ d = half
    by_cases c : r > half ∨ (r = half ∧ q % 2 = 1)
    · rw [if_pos c, if_neg (by omega)]
    · rw [if_neg c, if_pos (by omega)]

/-- what is left after dropping `bitLen m - 53` bits has at most 53 bits, and exactly 53 when
    bits were dropped -/
theorem bitLen_window (m : Nat) :
    m / 2 ^ (bitLen m - 53) < 2 ^ 53 ∧ (53 < bitLen m → 2 ^ 52 ≤ m / 2 ^ (bitLen m - 53)) := by
  have hp : 0 < 2 ^ (bitLen m - 53) := Nat.pow_pos (by omega)
  rw [Nat.le_div_iff_mul_le hp, Nat.div_lt_iff_lt_mul hp, ← Nat.pow_add, ← Nat.pow_add]
  by_cases hm : m = 0
  · subst hm
    exact ⟨Nat.pow_pos (by omega), fun h => absurd h (by decide)⟩
  · obtain ⟨hlo, hhi⟩ := bitLen_bounds m hm
    refine ⟨Nat.lt_of_lt_of_le hhi (Nat.pow_le_pow_right (by omega)
      (Nat.sub_le_iff_le_add'.1 (Nat.le_refl _))), fun h => ?_⟩
    rwa [(Nat.add_sub_assoc (Nat.le_of_lt h) 52).symm, Nat.add_sub_add_left 52 _ 1]

/-- `round53 m e = (q, e + k)`: `q * 2^k` is a nearest multiple of `2^k` to `m`, an exact tie is
    resolved to the even `q`, and `q` fits a 53-bit significand (`2^52 <= q <= 2^53` when bits
    were dropped; `q = m` when `m` has at most 53 bits) -/
theorem round53_nearest_even (m : Nat) (e : Int) :
    ∃ k q : Nat, round53 m e = (q, e + (k : Int))
      ∧ 2 * m ≤ 2 * (q * 2 ^ k) + 2 ^ k ∧ 2 * (q * 2 ^ k) ≤ 2 * m + 2 ^ k
      ∧ ((2 * m = 2 * (q * 2 ^ k) + 2 ^ k ∨ 2 * (q * 2 ^ k) = 2 * m + 2 ^ k) → k ≠ 0 → q % 2 = 0)
      ∧ q ≤ 2 ^ 53 ∧ ((k = 0 ∧ q = m) ∨ 2 ^ 52 ≤ q) ∧ k = bitLen m - 53 := by
  obtain ⟨h1, h2, h3⟩ := rneQuot_nearest (2 ^ (bitLen m - 53)) m (Nat.two_pow_pos _)
  obtain ⟨b1, b2⟩ := rneQuot_bounds (2 ^ (bitLen m - 53)) m
  obtain ⟨w1, w2⟩ := bitLen_window m
  refine ⟨_, _, round53_eq m e, h1, h2, fun h _ => h3 h, Nat.le_trans b2 w1, ?_, rfl⟩
  by_cases hl : bitLen m ≤ 53
  · rw [Nat.sub_eq_zero_of_le hl, Nat.pow_zero, rneQuot_one]
    exact Or.inl ⟨rfl, rfl⟩
  · exact Or.inr (Nat.le_trans (w2 (Nat.lt_of_not_le hl)) b1)

/-- a number with at most 53 significant bits is not changed by the rounding -/
theorem round53_exact (m : Nat) (e : Int) (j : Nat) (hj : m % 2 ^ j = 0) (hc : m / 2 ^ j < 2 ^ 53) :
    ∃ k q : Nat, round53 m e = (q, e + (k : Int)) ∧ q * 2 ^ k = m := by
  refine ⟨_, _, round53_eq m e, ?_⟩
  -- at most `j` bits are dropped, and `2^j` divides `m`
  have hd : 2 ^ (bitLen m - 53) ∣ m := by
    by_cases hm : m = 0
    · subst hm; exact Nat.dvd_zero _
    · have hlt : m < 2 ^ (53 + j) := by
        rw [Nat.pow_add]
        exact (Nat.div_lt_iff_lt_mul (Nat.two_pow_pos j)).mp hc
      have := (Nat.pow_lt_pow_iff_right Nat.one_lt_two).mp
        (Nat.lt_of_le_of_lt (bitLen_bounds m hm).1 hlt)
      exact Nat.dvd_trans (Nat.pow_dvd_pow 2 (by omega)) (Nat.dvd_of_mod_eq_zero hj)
  generalize bitLen m - 53 = k at hd ⊢
  obtain ⟨a, rfl⟩ := hd
  rw [Nat.mul_comm (2 ^ k) a, rneQuot_mul _ _ (Nat.two_pow_pos k)]

end Dlt
