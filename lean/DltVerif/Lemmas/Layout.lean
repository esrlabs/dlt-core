/-
  Spec level: facts about `Spec.framing` and the LEN field alone (no parser involved): what
  `complete` means, prefixes and extensions of a framed message.
-/
import DltVerif.Spec.Layout

namespace Dlt

theorem stdHeaderLen_ge (b : BitVec 8) : 4 ≤ Spec.stdHeaderLen b := by
  unfold Spec.stdHeaderLen; omega

theorem stdHeaderLen_le_all (b : BitVec 8) : Spec.stdHeaderLen b ≤ Spec.allHeadersLen b := by
  unfold Spec.allHeadersLen; omega

theorem declaredLen_lt (bs : Bytes) : Spec.declaredLen bs < 65536 := by
  rcases bs with _ | ⟨a, _ | ⟨b, _ | ⟨c, _ | ⟨d, l⟩⟩⟩⟩ <;> simp only [Spec.declaredLen] <;> omega

theorem declaredLen_take (bs : Bytes) (k : Nat) (hk : 4 ≤ k) :
    Spec.declaredLen (bs.take k) = Spec.declaredLen bs := by
  obtain ⟨j, rfl⟩ : ∃ j, k = j + 4 := ⟨k - 4, by omega⟩
  rcases bs with _ | ⟨a, _ | ⟨b, _ | ⟨c, _ | ⟨d, l⟩⟩⟩⟩ <;> simp [Spec.declaredLen, List.take_succ_cons]

theorem declaredLen_append (bs sfx : Bytes) (h : 4 ≤ bs.length) :
    Spec.declaredLen (bs ++ sfx) = Spec.declaredLen bs := by
  rcases bs with _ | ⟨a, _ | ⟨b, _ | ⟨c, _ | ⟨d, l⟩⟩⟩⟩ <;> simp at h <;> try omega
  simp [Spec.declaredLen]

theorem framing_cons (htyp : BitVec 8) (t : Bytes) :
    Spec.framing (htyp :: t) =
      if (htyp :: t).length < Spec.stdHeaderLen htyp then
        .incomplete (Spec.stdHeaderLen htyp - (htyp :: t).length)
      else if Spec.declaredLen (htyp :: t) < Spec.allHeadersLen htyp then .reject
      else if (htyp :: t).length < Spec.allHeadersLen htyp then
        .incomplete (Spec.allHeadersLen htyp - (htyp :: t).length)
      else if (htyp :: t).length < Spec.declaredLen (htyp :: t) then
        .incomplete (Spec.declaredLen (htyp :: t) - (htyp :: t).length)
      else .complete (Spec.declaredLen (htyp :: t)) := rfl

theorem framing_of_le (bs : Bytes) (h : Spec.stdHeaderLen (bs.headD 0#8) ≤ bs.length) :
    Spec.framing bs =
      if Spec.declaredLen bs < Spec.allHeadersLen (bs.headD 0#8) then .reject
      else if bs.length < Spec.allHeadersLen (bs.headD 0#8) then
        .incomplete (Spec.allHeadersLen (bs.headD 0#8) - bs.length)
      else if bs.length < Spec.declaredLen bs then .incomplete (Spec.declaredLen bs - bs.length)
      else .complete (Spec.declaredLen bs) := by
  have h4 := stdHeaderLen_ge (bs.headD 0#8)
  cases bs with
  | nil => exact absurd h (by simp only [List.length_nil]; omega)
  | cons htyp t => exact (framing_cons htyp t).trans (if_neg (Nat.not_lt.mpr h))

theorem framing_complete_iff (bs : Bytes) (d : Nat) :
    Spec.framing bs = .complete d ↔
      ∃ htyp t, bs = htyp :: t ∧ Spec.stdHeaderLen htyp ≤ bs.length ∧ Spec.allHeadersLen htyp ≤ d
        ∧ d ≤ bs.length ∧ d = Spec.declaredLen bs := by
  cases bs with
  | nil => simp [Spec.framing]
  | cons htyp t =>
    rw [framing_cons]
    constructor
    · intro h
      iterate 4 (split at h; cases h)
      injection h with h
      exact ⟨htyp, t, rfl, by omega, by omega, by omega, h.symm⟩
    · rintro ⟨htyp', t', he, h2, h3, h4, h5⟩
      injection he with he1 he2
      subst he1 he2 h5
      rw [if_neg (Nat.not_lt.2 h2), if_neg (Nat.not_lt.2 h3),
        if_neg (Nat.not_lt.2 (Nat.le_trans h3 h4)), if_neg (Nat.not_lt.2 h4)]

theorem framing_take_of_complete (bs : Bytes) (d : Nat) (h : Spec.framing bs = .complete d)
    (k : Nat) (hk : k < d) :
    ∃ b, Spec.framing (bs.take k) = .incomplete b ∧ b ≤ d - k := by
  obtain ⟨htyp, t, rfl, h2, h3, h4, h5⟩ := (framing_complete_iff bs d).1 h
  have h0 := stdHeaderLen_ge htyp
  have h1 := stdHeaderLen_le_all htyp
  cases k with
  | zero => exact ⟨1, rfl, hk⟩
  | succ j =>
    have hlen : ((htyp :: t).take (j + 1)).length = j + 1 := List.length_take_of_le (by omega)
    rw [List.take_succ_cons] at hlen ⊢
    rw [framing_cons]
    simp only [hlen]
    by_cases c1 : j + 1 < Spec.stdHeaderLen htyp
    · rw [if_pos c1]; exact ⟨_, rfl, Nat.sub_le_sub_right (Nat.le_trans h1 h3) _⟩
    · have hd : Spec.declaredLen (htyp :: t.take j) = d := by
        rw [← List.take_succ_cons, declaredLen_take _ _ (Nat.le_trans h0 (Nat.not_lt.1 c1)), h5]
      rw [if_neg c1, hd, if_neg (Nat.not_lt.2 h3)]
      by_cases c2 : j + 1 < Spec.allHeadersLen htyp
      · rw [if_pos c2]; exact ⟨_, rfl, Nat.sub_le_sub_right h3 _⟩
      · rw [if_neg c2, if_pos hk]; exact ⟨_, rfl, Nat.le_refl _⟩

theorem framing_append_of_complete (bs sfx : Bytes) (d : Nat) (h : Spec.framing bs = .complete d) :
    Spec.framing (bs ++ sfx) = .complete d := by
  obtain ⟨htyp, t, rfl, h2, h3, h4, h5⟩ := (framing_complete_iff bs d).1 h
  have h0 := stdHeaderLen_ge htyp
  rw [framing_complete_iff]
  refine ⟨htyp, t ++ sfx, rfl, ?_, h3, ?_, ?_⟩
  · rw [List.length_append]; omega
  · rw [List.length_append]; omega
  · rw [declaredLen_append _ _ (by omega), h5]

theorem framing_complete_le (bs : Bytes) (d : Nat) (h : Spec.framing bs = .complete d) :
    4 ≤ d ∧ d ≤ bs.length ∧ Spec.allHeadersLen (bs.headD 0#8) ≤ d := by
  obtain ⟨htyp, t, rfl, h2, h3, h4, h5⟩ := (framing_complete_iff bs d).1 h
  have h0 := stdHeaderLen_ge htyp
  have h1 := stdHeaderLen_le_all htyp
  exact ⟨by omega, h4, h3⟩

end Dlt
