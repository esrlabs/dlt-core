/-
  C11, the second half of layer L2 of Model/Fibex.lean: from what the reader accumulated over
  all files (`Acc`) to the metadata (`buildPdus`, `buildFrames`) — equal to `Spec.model` of the documents.

  `accOf es` is the accumulation the reader must produce for the elements `es` (proved for
  rendered documents in Lemmas/FibexRead.lean).
-/
import DltVerif.Spec.Fibex

namespace Dlt.Fibex
open Dlt.Fibex.Spec

/-- `<DESC/>`, `<DESC></DESC>` yield no text event: no description -/
def descOf (p : PduDoc) : Option Bytes := p.desc.bind fun d => if d = [] then none else some d

def frameReadOf (f : FrameDoc) : FrameReadData :=
  { shortName := f.shortName
    contextId := f.ext.bind (·.contextId)
    applicationId := f.ext.bind (·.applicationId)
    messageType := f.ext.bind (·.messageType)
    messageInfo := f.ext.bind (·.messageInfo)
    pduRefs := ordered f.pdus }

def insertAll (l : List (Bytes × Bytes)) (m : List (Bytes × Bytes)) : List (Bytes × Bytes) :=
  l.foldl (fun m kv => insertKV m kv.1 kv.2) m

def accOf (es : List Elem) : Acc :=
  { pdus := (pdusOf es).map fun p => (p.id, (descOf p, ordered p.signals))
    frames := (framesOf es).map fun f => (f.id, frameReadOf f)
    signals := insertAll (signalsOf es) []
    codings := insertAll (codingsOf es) [] }

section
variable {κ α : Type} [DecidableEq κ] [BEq κ] [LawfulBEq κ]

/-- first entry with the key: `lookupKV` (byte strings) and `lookupK` (any key) are this -/
def assoc (m : List (κ × α)) (k : κ) : Option α := (m.find? (·.1 == k)).map (·.2)

theorem assoc_cons (e : κ × α) (m : List (κ × α)) (k : κ) :
    assoc (e :: m) k = if e.1 = k then some e.2 else assoc m k := by
  unfold assoc
  rw [List.find?_cons]
  split <;> simp_all

theorem assoc_append (m n : List (κ × α)) (k : κ) :
    assoc (m ++ n) k = (assoc m k).or (assoc n k) := by
  induction m with
  | nil => simp [assoc]
  | cons e m ih =>
    rw [List.cons_append, assoc_cons, assoc_cons, ih]
    split <;> simp

theorem any_key_eq (m : List (κ × α)) (k : κ) : m.any (·.1 == k) = (assoc m k).isSome := by
  induction m with
  | nil => rfl
  | cons e m ih =>
    rw [List.any_cons, assoc_cons, ih]
    split <;> simp_all

theorem assoc_firstPerKey (l acc : List (κ × α)) (k : κ) :
    assoc (firstPerKey l acc) k = (assoc acc k).or (assoc l k) := by
  induction l generalizing acc with
  | nil => simp [firstPerKey, assoc]
  | cons e l ih =>
    obtain ⟨k0, v⟩ := e
    rw [firstPerKey, assoc_cons]
    split
    · rename_i hany
      rw [ih]
      rw [any_key_eq] at hany
      by_cases hk : k0 = k
      · subst hk
        obtain ⟨x, hx⟩ := Option.isSome_iff_exists.mp hany
        simp [hx]
      · simp [hk]
    · rw [ih, assoc_append, assoc_cons]
      by_cases hk : k0 = k
      · subst hk; cases assoc acc k0 <;> simp [assoc]
      · simp [hk, assoc]

/-- looking a key up among the images `h b` of a list: the first `b` whose image carries it -/
theorem assoc_filterMap {β : Type} (h : β → Option (κ × α)) (p : β → Bool) (g : β → Option α) (k : κ)
    (l : List β)
    (hh : ∀ b ∈ l, ((h b).bind fun e => if e.1 = k then some e.2 else none) = if p b then g b else none)
    (hs : ∀ b ∈ l, p b = true → (g b).isSome = true) :
    assoc (l.filterMap h) k = (l.find? p).bind g := by
  induction l with
  | nil => rfl
  | cons b l ih =>
    have hb := hh b (List.mem_cons_self ..)
    have ih := ih (fun b hb => hh b (List.mem_cons_of_mem _ hb)) (fun b hb => hs b (List.mem_cons_of_mem _ hb))
    rw [List.filterMap_cons, List.find?_cons]
    cases hp : p b with
    | false =>
      -- `find?` passes over `b`, and so does `assoc`: the image of `b`, if there is one, carries another key
      rw [hp, if_neg Bool.false_ne_true] at hb
      cases hhb : h b with
      | none => exact ih
      | some e =>
        rw [hhb, Option.bind_some] at hb
        have hne : ¬ e.1 = k := fun hk => by rw [if_pos hk] at hb; cases hb
        rw [assoc_cons, if_neg hne, ih]
    | true =>
      -- `find?` stops at `b`, and so does `assoc`: the image of `b` carries `k`, with the value `g b`
      obtain ⟨a, ha⟩ := Option.isSome_iff_exists.mp (hs b (List.mem_cons_self ..) hp)
      rw [hp, if_pos rfl, ha] at hb
      cases hhb : h b with
      | none => rw [hhb] at hb; cases hb
      | some e =>
        rw [hhb, Option.bind_some] at hb
        by_cases hk : e.1 = k
        · rw [if_pos hk] at hb
          rw [assoc_cons, if_pos hk, Option.bind_some, ha, hb]
        · rw [if_neg hk] at hb; cases hb

end

theorem lookupKV_cons {α : Type} (e : Bytes × α) (m : List (Bytes × α)) (k : Bytes) :
    lookupKV (e :: m) k = if e.1 = k then some e.2 else lookupKV m k := assoc_cons e m k

theorem lookupKV_append {α : Type} (m n : List (Bytes × α)) (k : Bytes) :
    lookupKV (m ++ n) k = (lookupKV m k).or (lookupKV n k) := assoc_append m n k

theorem lookupKV_nil {α : Type} (k : Bytes) : lookupKV ([] : List (Bytes × α)) k = none := rfl

theorem lookupKV_firstPerKey {α : Type} (l acc : List (Bytes × α)) (k : Bytes) :
    lookupKV (firstPerKey l acc) k = (lookupKV acc k).or (lookupKV l k) := assoc_firstPerKey l acc k

theorem lookupKV_map_replace (m : List (Bytes × Bytes)) (k v k' : Bytes) :
    lookupKV (m.map (fun e => if e.1 == k then (k, v) else e)) k'
      = if k = k' then (if m.any (·.1 == k) then some v else none) else lookupKV m k' := by
  induction m with
  | nil => simp [lookupKV]
  | cons e m ih =>
    rw [List.map_cons, lookupKV_cons, lookupKV_cons, ih, List.any_cons]
    clear ih
    cases h1 : e.1 == k
    · rw [Bool.false_or]
      have := beq_eq_false_iff_ne.mp h1
      by_cases h2 : k = k' <;> simp_all
    · rw [Bool.true_or, beq_iff_eq.mp h1]
      by_cases h2 : k = k' <;> simp [h2]

theorem lookupKV_insertKV (m : List (Bytes × Bytes)) (k v k' : Bytes) :
    lookupKV (insertKV m k v) k' = if k = k' then some v else lookupKV m k' := by
  unfold insertKV
  split
  · rename_i h
    rw [lookupKV_map_replace, h]; simp
  · rename_i h
    rw [lookupKV_append, lookupKV_cons]
    have hn : lookupKV m k = none := Option.not_isSome_iff_eq_none.mp (any_key_eq m k ▸ h)
    by_cases hk : k = k'
    · subst hk; simp [hn]
    · simp [hk, lookupKV_nil]

theorem lastOf_cons (a b : Bytes) (l : List (Bytes × Bytes)) (k : Bytes) :
    lastOf ((a, b) :: l) k = (lastOf l k).or (if a = k then some b else none) := by
  unfold lastOf
  rw [List.reverse_cons, List.find?_append]
  cases List.find? (fun x => x.1 == k) l.reverse <;> by_cases hk : a = k <;> simp [hk]

theorem lookupKV_insertAll (l m : List (Bytes × Bytes)) (k : Bytes) :
    lookupKV (insertAll l m) k = (lastOf l k).or (lookupKV m k) := by
  induction l generalizing m with
  | nil => simp [insertAll, lastOf]
  | cons e l ih =>
    obtain ⟨a, b⟩ := e
    have : insertAll ((a, b) :: l) m = insertAll l (insertKV m a b) := rfl
    rw [this, ih, lookupKV_insertKV, lastOf_cons]
    cases lastOf l k <;> by_cases hk : a = k <;> simp [hk]

theorem lastOf_isSome_of_mem (l : List (Bytes × Bytes)) (k v : Bytes) (h : (k, v) ∈ l) :
    (lastOf l k).isSome = true := by
  unfold lastOf
  rw [Option.isSome_map, List.find?_isSome]
  exact ⟨(k, v), by simpa using h, by simp⟩

/-- the Spec's "definition in force" list looks up as `lastOf` -/
theorem lookupKV_inForce_self (L : List (Bytes × Bytes)) (k : Bytes) :
    lookupKV (L.filterMap fun (id, _) => (lastOf L id).map fun c => (id, c)) k = lastOf L k := by
  refine (assoc_filterMap _ (·.1 == k) (fun _ => lastOf L k) k L (fun e _ => ?_)
    (fun e he hk => ?_)).trans ?_
  · by_cases hk : e.1 = k
    · subst hk; cases h : lastOf L e.1 <;> simp [h]
    · cases h : lastOf L e.1 <;> simp [h, hk]
  · rw [← beq_iff_eq.mp hk]; exact lastOf_isSome_of_mem L e.1 e.2 he
  · cases h : L.find? (·.1 == k) with
    | some e => rfl
    | none =>
      rw [List.find?_eq_none] at h
      exact (Option.map_eq_none_iff.mpr (List.find?_eq_none.mpr fun e he => h e (List.mem_reverse.mp he))).symm

theorem typeInfoForSignalRef_congr (ref : Bytes) (s1 s2 c1 c2 : List (Bytes × Bytes))
    (hs : ∀ k, lookupKV s1 k = lookupKV s2 k) (hc : ∀ k, lookupKV c1 k = lookupKV c2 k) :
    typeInfoForSignalRef ref s1 c1 = typeInfoForSignalRef ref s2 c2 := by
  unfold typeInfoForSignalRef
  have : (lookupKV s1 ref).bind (lookupKV c1) = (lookupKV s2 ref).bind (lookupKV c2) := by
    rw [hs]; cases lookupKV s2 ref <;> simp [hc]
  rw [this]

theorem typeOf_accOf (es : List Elem) (ref : Bytes) :
    typeInfoForSignalRef ref (accOf es).signals (accOf es).codings = typeOf es ref := by
  unfold typeOf accOf
  apply typeInfoForSignalRef_congr <;> intro k <;> rw [lookupKV_insertAll, lookupKV_inForce_self] <;>
    simp [lookupKV_nil]

def mkPdu (signals codings : List (Bytes × Bytes)) (e : Option Bytes × List Bytes) : PduMetadata :=
  { description := e.1, signalTypes := e.2.filterMap fun r => typeInfoForSignalRef r signals codings }

theorem buildPdus_eq (s c : List (Bytes × Bytes))
    (pdus : List (Bytes × (Option Bytes × List Bytes))) (m : List (Bytes × PduMetadata)) :
    buildPdus s c pdus m = firstPerKey (pdus.map fun e => (e.1, mkPdu s c e.2)) m := by
  induction pdus generalizing m with
  | nil => rfl
  | cons e pdus ih =>
    obtain ⟨id, desc, refs⟩ := e
    simp only [buildPdus, List.map_cons, firstPerKey, ih, mkPdu]

theorem lookupKV_pduById (es : List Elem) (r : Bytes) :
    lookupKV (buildPdus (accOf es).signals (accOf es).codings (accOf es).pdus []) r
      = (firstPdu es r).map (pduMeta es) := by
  rw [buildPdus_eq, lookupKV_firstPerKey, lookupKV_nil, Option.none_or]
  simp only [lookupKV, accOf, firstPdu, List.find?_map, Option.map_map, Function.comp_def, mkPdu]
  congr 1
  funext p
  rw [pduMeta, ← funext (typeOf_accOf es)]
  rfl

theorem resolvePdus_eq (m : List (Bytes × PduMetadata)) (refs : List Bytes) :
    resolvePdus m refs
      = if refs.all (fun r => (lookupKV m r).isSome) then some (refs.filterMap (lookupKV m)) else none := by
  induction refs with
  | nil => rfl
  | cons r refs ih =>
    rw [resolvePdus, ih]
    cases h : lookupKV m r <;> by_cases ha : refs.all (fun r => (lookupKV m r).isSome) <;> simp [h, ha]

/-- the metadata of one frame as `read_fibexes` builds it (`none`: unknown PDU reference) -/
def mkFrame (pduById : List (Bytes × PduMetadata)) (fr : FrameReadData) : Option FrameMetadata :=
  (resolvePdus pduById fr.pduRefs).map fun pdus =>
    { shortName := fr.shortName, pdus := pdus, applicationId := fr.applicationId
      contextId := fr.contextId, messageType := fr.messageType, messageInfo := fr.messageInfo }

def keyOf (e : Bytes × FrameMetadata) : Option (FrameKey × FrameMetadata) :=
  match e.2.contextId, e.2.applicationId with
  | some ctx, some app => some (({ contextId := ctx, appId := app, frameId := e.1 } : FrameKey), e.2)
  | _, _ => none

theorem firstPerKey_append {κ α : Type} [BEq κ] (a b acc : List (κ × α)) :
    firstPerKey (a ++ b) acc = firstPerKey b (firstPerKey a acc) := by
  induction a generalizing acc with
  | nil => rfl
  | cons e a ih => obtain ⟨k, v⟩ := e; simp only [List.cons_append, firstPerKey]; split <;> exact ih _

/-- one frame of `read_fibexes`' last loop: it enters either map unless its key is taken -/
theorem buildFrames_cons (pduById : List (Bytes × PduMetadata)) (id : Bytes) (fr : FrameReadData)
    (rest : List (Bytes × FrameReadData)) (md : FibexMetadata) :
    buildFrames pduById ((id, fr) :: rest) md
      = (mkFrame pduById fr).bind fun m => buildFrames pduById rest
          { frameMap := firstPerKey [(id, m)] md.frameMap
            frameMapWithKey := firstPerKey (keyOf (id, m)).toList md.frameMapWithKey } := by
  rw [buildFrames]
  unfold mkFrame
  cases resolvePdus pduById fr.pduRefs with
  | none => rfl
  | some pdus => cases hc : fr.contextId <;> cases ha : fr.applicationId <;>
    simp only [keyOf, firstPerKey, Option.map_some, Option.bind_some, Option.toList, *]

theorem buildFrames_eq (pduById : List (Bytes × PduMetadata)) (frames : List (Bytes × FrameReadData))
    (md : FibexMetadata) :
    buildFrames pduById frames md
      = if frames.all (fun e => (mkFrame pduById e.2).isSome) then
          some { frameMap := firstPerKey
                   (frames.filterMap fun e => (mkFrame pduById e.2).map fun m => (e.1, m)) md.frameMap
                 frameMapWithKey := firstPerKey
                   ((frames.filterMap fun e => (mkFrame pduById e.2).map fun m => (e.1, m)).filterMap keyOf)
                   md.frameMapWithKey }
        else none := by
  induction frames generalizing md with
  | nil => simp [buildFrames, firstPerKey]
  | cons e frames ih =>
    obtain ⟨id, fr⟩ := e
    rw [buildFrames_cons]
    cases hm : mkFrame pduById fr with
    | none => simp [hm]
    | some m =>
      rw [Option.bind_some, ih]
      simp only [List.all_cons, List.filterMap_cons, hm, Option.isSome_some, Bool.true_and, Option.map_some]
      rw [← List.singleton_append (x := (id, m)), firstPerKey_append]
      cases hk : keyOf (id, m) <;> simp [← firstPerKey_append]

theorem mkFrame_accOf (es : List Elem) (f : FrameDoc) :
    mkFrame (buildPdus (accOf es).signals (accOf es).codings (accOf es).pdus []) (frameReadOf f)
      = frameMeta es f := by
  have hl : lookupKV (buildPdus (accOf es).signals (accOf es).codings (accOf es).pdus [])
      = fun r => (firstPdu es r).map (pduMeta es) := funext (lookupKV_pduById es)
  unfold mkFrame frameMeta
  rw [resolvePdus_eq, hl]
  simp only [frameReadOf, Option.isSome_map]
  split <;> rfl

theorem build_accOf (files : List FileDoc) :
    buildFrames
        (buildPdus (accOf files.flatten).signals (accOf files.flatten).codings (accOf files.flatten).pdus [])
        (accOf files.flatten).frames {}
      = Spec.model files := by
  rw [buildFrames_eq]
  unfold Spec.model
  have hfr : (accOf files.flatten).frames
      = (framesOf files.flatten).map fun f => (f.id, frameReadOf f) := rfl
  simp only [hfr, List.all_map, List.filterMap_map, Function.comp_def, mkFrame_accOf]
  split
  · congr 1
  · rfl

theorem Spec.model_isSome (files : List FileDoc) :
    (Spec.model files).isSome
      = (framesOf files.flatten).all (fun f => (frameMeta files.flatten f).isSome) := by
  unfold Spec.model
  simp only []
  split
  · next h => rw [h]; rfl
  · next h => rw [Bool.not_eq_true] at h; rw [h]; rfl

end Dlt.Fibex
