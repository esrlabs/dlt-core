/-
  What a successful parse means in the Spec's terms: the framing is complete and the result is
  shaped by it; and the layout facts of a serialised well-formed message that follow.
-/
import DltVerif.Lemmas.FramingStorage
import DltVerif.Lemmas.RoundTripMsg

namespace Dlt
theorem framing_of_ok {bs : Bytes} {f : Option ProcessedFilter} {res : ParsedMessage}
    {rest : Bytes} (h : dltMessageIntern bs f false = .ok res rest) :
    ∃ d, Spec.framing bs = .complete d ∧ rest = bs.drop d ∧ res ≠ .invalid
      ∧ (∀ n, res = .filteredOut n → n = d - Spec.allHeadersLen (bs.headD 0#8))
      ∧ (∀ m, res = .item m → m.storageHeader = none) := by
  obtain ⟨d, hf, _, he⟩ := msgBody_ok_inv (so := none) h
  obtain ⟨_, hdl, hal⟩ := framing_complete_le bs d hf
  rcases msgFinish_cases none _ _ f (d - Spec.allHeadersLen (bs.headD 0#8))
      (bs.drop (Spec.allHeadersLen (bs.headD 0#8)))
      (by rw [List.length_drop]; exact Nat.sub_le_sub_right hdl _)
    with ⟨res', h1, h2, h3, h4⟩ | h1 | h1 <;> rw [h1] at he
  · injection he with e1 e2
    subst e1
    exact ⟨d, hf, by rw [← e2, List.drop_drop, Nat.add_sub_of_le hal], h2, h3, h4⟩
  · cases he
  · cases he

theorem framing_of_ok_nil {bs : Bytes} {f : Option ProcessedFilter} {res : ParsedMessage}
    (h : dltMessageIntern bs f false = .ok res []) : Spec.framing bs = .complete bs.length := by
  obtain ⟨d, hf, hr, _⟩ := framing_of_ok h
  obtain ⟨_, hdl, _⟩ := framing_complete_le bs d hf
  have hge : bs.length ≤ d := List.drop_eq_nil_iff.1 hr.symm
  have : d = bs.length := Nat.le_antisymm hdl hge
  rw [hf, this]

theorem firstPattern_zero (bs : Bytes) (hp : bs.take 4 = DLT_PATTERN) :
    Spec.firstPattern bs = some 0 := by
  rw [firstPattern_some_iff]
  refine ⟨?_, fun k hk => by omega⟩
  rw [List.drop_zero]
  exact hp

theorem Message.asBytes_take4 (m : Message) (hs : m.storageHeader.isSome = true) :
    m.asBytes.take 4 = DLT_PATTERN := by
  rw [Message.asBytes_eq]
  cases hsh : m.storageHeader with
  | none => rw [hsh] at hs; cases hs
  | some sh =>
    simp only [shBytes, StorageHeader.asBytes, List.append_assoc]
    rfl

theorem Message.asBytes_storage_layout (m : Message) (h : m.wf = true)
    (hs : m.storageHeader.isSome = true) :
    m.asBytes.take 4 = DLT_PATTERN ∧ 16 ≤ m.asBytes.length
      ∧ Spec.framing (m.asBytes.drop 16) = .complete (m.asBytes.length - 16) := by
  have hp := Message.asBytes_take4 m hs
  have hlen := Message.wf_length m h
  rw [hs, if_pos rfl] at hlen
  have hrt := dltMessageIntern_asBytes m h []
  rw [List.append_nil, hs] at hrt
  obtain ⟨skip, res', hfp, h16, hi, _⟩ := storage_of_ok hrt
  rw [firstPattern_zero _ hp] at hfp
  injection hfp with hfp
  subst hfp
  rw [Nat.zero_add] at hi h16
  have := framing_of_ok_nil hi
  rw [List.length_drop] at this
  exact ⟨hp, h16, this⟩

theorem Message.asBytes_framing (m : Message) (h : m.wf = true)
    (hs : m.storageHeader.isSome = false) :
    Spec.framing m.asBytes = .complete m.asBytes.length := by
  have hrt := dltMessageIntern_asBytes m h []
  rw [List.append_nil, hs] at hrt
  exact framing_of_ok_nil hrt

end Dlt
