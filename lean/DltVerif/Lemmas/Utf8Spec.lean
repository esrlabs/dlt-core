/-
  The two formulations of UTF-8 validity agree: the definition of the encoding form
  (Spec/Zts.lean: shortest-form encodings of scalar values, RFC 3629) and the byte-range
  table 3-7 of the Unicode standard (Model/Utf8.lean, the shape of `core::str`'s validator).
-/
import DltVerif.Spec.Zts
import DltVerif.Lemmas.Utf8

namespace Dlt
open Dlt.Utf8 Dlt.Spec

theorem inR_iff (lo hi : Nat) (b : BitVec 8) : inR lo hi b = true ↔ lo ≤ b.toNat ∧ b.toNat ≤ hi := by
  simp [inR]

theorem cont_iff (b : BitVec 8) : cont b = true ↔ b.toNat / 64 = 2 := by
  have := b.isLt
  rw [cont, inR_iff]
  omega

theorem contBits_eq (b : BitVec 8) :
    contBits b = if cont b = true then some (b.toNat % 64) else none := by
  simp only [contBits, cont_iff]

/- The rows of table 3-7 against the definition: with the lead byte in its class, the
   continuation tests and the range of the code point (not over-long, not a surrogate, not above
   10FFFF) say what the table's ranges on the lead byte and on the second byte say. -/

theorem Utf8.row2 (b0 b1 : BitVec 8) (h : b0.toNat / 32 = 6) :
    (cont b1 = true ∧ 0x80 ≤ b0.toNat % 32 * 64 + b1.toNat % 64)
      ↔ inR 0xC2 0xDF b0 = true ∧ cont b1 = true := by
  rw [cont, inR_iff, inR_iff]
  omega

theorem Utf8.row3 (b0 b1 b2 : BitVec 8) (h : b0.toNat / 16 = 14) :
    (cont b1 = true ∧ cont b2 = true
        ∧ 0x800 ≤ (b0.toNat % 16 * 64 + b1.toNat % 64) * 64 + b2.toNat % 64
        ∧ ¬ (0xD800 ≤ (b0.toNat % 16 * 64 + b1.toNat % 64) * 64 + b2.toNat % 64
              ∧ (b0.toNat % 16 * 64 + b1.toNat % 64) * 64 + b2.toNat % 64 ≤ 0xDFFF))
      ↔ ((if b0.toNat = 0xE0 then inR 0xA0 0xBF b1
          else if b0.toNat = 0xED then inR 0x80 0x9F b1 else cont b1) && cont b2) = true := by
  rw [Bool.and_eq_true]
  simp only [cont, inR_iff]
  split
  · rw [inR_iff]; omega
  · split
    · rw [inR_iff]; omega
    · rw [inR_iff]; omega

theorem Utf8.row4 (b0 b1 b2 b3 : BitVec 8) (h : b0.toNat / 8 = 30) :
    (cont b1 = true ∧ cont b2 = true ∧ cont b3 = true
        ∧ 0x10000 ≤ ((b0.toNat % 8 * 64 + b1.toNat % 64) * 64 + b2.toNat % 64) * 64 + b3.toNat % 64
        ∧ ((b0.toNat % 8 * 64 + b1.toNat % 64) * 64 + b2.toNat % 64) * 64 + b3.toNat % 64 ≤ 0x10FFFF)
      ↔ inR 0xF0 0xF4 b0 = true ∧ ((if b0.toNat = 0xF0 then inR 0x90 0xBF b1
          else if b0.toNat = 0xF4 then inR 0x80 0x8F b1 else cont b1) && cont b2 && cont b3) = true := by
  rw [Bool.and_eq_true, Bool.and_eq_true]
  simp only [cont, inR_iff]
  split
  · rw [inR_iff]; omega
  · split
    · rw [inR_iff]; omega
    · rw [inR_iff]; omega

-- the lead-byte tests of the table on a byte of each class of the definition

theorem Utf8.lead2 (b0 : BitVec 8) (h : b0.toNat / 32 = 6) :
    ¬ b0.toNat < 0x80 ∧ inR 0xE0 0xEF b0 = false ∧ inR 0xF0 0xF4 b0 = false := by
  simp only [← Bool.not_eq_true, inR_iff]
  omega

theorem Utf8.lead3 (b0 : BitVec 8) (h : b0.toNat / 16 = 14) :
    ¬ b0.toNat < 0x80 ∧ inR 0xC2 0xDF b0 = false ∧ inR 0xE0 0xEF b0 = true := by
  simp only [← Bool.not_eq_true, inR_iff]
  omega

theorem Utf8.lead4 (b0 : BitVec 8) (h : b0.toNat / 8 = 30) :
    ¬ b0.toNat < 0x80 ∧ inR 0xC2 0xDF b0 = false ∧ inR 0xE0 0xEF b0 = false := by
  simp only [← Bool.not_eq_true, inR_iff]
  omega

theorem Utf8.lead0 (b0 : BitVec 8) (h2 : ¬ b0.toNat / 32 = 6) (h3 : ¬ b0.toNat / 16 = 14)
    (h4 : ¬ b0.toNat / 8 = 30) :
    inR 0xC2 0xDF b0 = false ∧ inR 0xE0 0xEF b0 = false ∧ inR 0xF0 0xF4 b0 = false := by
  simp only [← Bool.not_eq_true, inR_iff]
  omega

/-! Both sides of `decodeScalar_len` are chains of tests that end in a value: `bind_ite` and `ite_ite`
bring each to one test, `len_of_iff` compares the two. -/

private theorem bind_ite {α β : Type} (c : Prop) [Decidable c] (x : α) (f : α → Option β) :
    (if c then some x else none).bind f = if c then f x else none := by
  split <;> rfl

private theorem ite_ite {α : Type} (c d : Prop) [Decidable c] [Decidable d] (a z : α) :
    (if c then (if d then a else z) else z) = if c ∧ d then a else z := by
  by_cases c <;> simp [*]

private theorem len_of_iff {P Q : Prop} [Decidable P] [Decidable Q] (cp k : Nat) (hk : k ≠ 0)
    (h : P ↔ Q) :
    Option.map (·.2) (if P then some (cp, k) else none)
      = if (if Q then k else 0) = 0 then none else some (if Q then k else 0) := by
  by_cases hq : Q <;> simp [hq, h, hk]

theorem decodeScalar_len (bs : Bytes) :
    (decodeScalar bs).map (·.2) = if scalarLen bs = 0 then none else some (scalarLen bs) := by
  fun_cases decodeScalar bs
  -- the branches of `decodeScalar`: 1 = empty, 2 = ASCII, 3/5/7 = lead byte of a 2/3/4-byte form with
  -- enough bytes behind it, 4/6/8 = the same with too few, 9 = no lead byte
  case case1 => rfl
  case case2 b0 t n h =>
    have h' : b0.toNat < 0x80 := h
    simp [scalarLen, h']
  case case3 b0 n h1 h2 b1 t =>
    obtain ⟨e1, e3, e4⟩ := lead2 b0 h2
    simp +zetaDelta only [scalarLen, e1, e3, e4, if_false, Bool.false_eq_true, contBits_eq,
      bind_ite, ite_ite]
    exact len_of_iff _ 2 (by decide) (row2 b0 b1 h2)
  case case4 b0 t n h1 h2 hs =>
    obtain ⟨e1, e3, e4⟩ := lead2 b0 h2
    -- the tail is too short: `scalarLen`'s equation for that shape is unfolded under `hs`
    simp only [scalarLen, e1, e3, e4, if_false, Bool.false_eq_true]
    cases inR 0xC2 0xDF b0 <;> rfl
  case case5 b0 n h1 h2 h3 b1 b2 t =>
    obtain ⟨e1, e2, e3⟩ := lead3 b0 h3
    simp +zetaDelta only [scalarLen, e1, e2, e3, if_false, if_true, Bool.false_eq_true, contBits_eq,
      bind_ite, ite_ite]
    exact len_of_iff _ 3 (by decide) (row3 b0 b1 b2 h3)
  case case6 b0 t n h1 h2 h3 hs =>
    obtain ⟨e1, e2, e3⟩ := lead3 b0 h3
    simp only [scalarLen, e1, e2, e3, if_false, if_true, Bool.false_eq_true]
    rfl
  case case7 b0 n h1 h2 h3 h4 b1 b2 b3 t =>
    obtain ⟨e1, e2, e3⟩ := lead4 b0 h4
    simp +zetaDelta only [scalarLen, e1, e2, e3, if_false, Bool.false_eq_true, contBits_eq,
      bind_ite, ite_ite]
    exact len_of_iff _ 4 (by decide) (row4 b0 b1 b2 b3 h4)
  case case8 b0 t n h1 h2 h3 h4 hs =>
    obtain ⟨e1, e2, e3⟩ := lead4 b0 h4
    simp only [scalarLen, e1, e2, e3, if_false, Bool.false_eq_true]
    cases inR 0xF0 0xF4 b0 <;> rfl
  case case9 b0 t n h1 h2 h3 h4 =>
    obtain ⟨e2, e3, e4⟩ := lead0 b0 h2 h3 h4
    have e1 : ¬ b0.toNat < 0x80 := h1
    simp [scalarLen, e1, e2, e3, e4]

theorem decodeScalar_none (bs : Bytes) (h : decodeScalar bs = none) : scalarLen bs = 0 :=
  Decidable.byContradiction fun h0 => by
    have := decodeScalar_len bs
    rw [h, if_neg h0] at this
    cases this

theorem decodeScalar_some (bs : Bytes) (cp k : Nat) (h : decodeScalar bs = some (cp, k)) :
    scalarLen bs = k ∧ k ≠ 0 := by
  have := decodeScalar_len bs
  rw [h] at this
  split at this
  · cases this
  · rename_i h0
    cases this
    exact ⟨rfl, h0⟩

theorem isUtf8Fuel_eq (fuel : Nat) (bs : Bytes) (h : bs.length ≤ fuel) :
    isUtf8Fuel fuel bs = Utf8.valid bs := by
  induction fuel generalizing bs with
  | zero =>
    have : bs = [] := List.eq_nil_of_length_eq_zero (Nat.eq_zero_of_le_zero h)
    subst this
    simp [isUtf8Fuel, Utf8.valid, validUpTo_nil]
  | succ fuel ih =>
    cases bs with
    | nil => simp [isUtf8Fuel, Utf8.valid, validUpTo_nil]
    | cons b t =>
      unfold isUtf8Fuel
      cases hd : decodeScalar (b :: t) with
      | none =>
        have h0 := decodeScalar_none _ hd
        simp only [Utf8.valid, validUpTo_of_scalarLen_eq_zero _ h0, List.length_cons]
        simp
      | some x =>
        obtain ⟨cp, k⟩ := x
        obtain ⟨hk, hk0⟩ := decodeScalar_some _ cp k hd
        have hle := scalarLen_le (b :: t)
        simp only []
        rw [ih _ (by simp only [List.length_drop, List.length_cons] at h ⊢; omega)]
        have hne : scalarLen (b :: t) ≠ 0 := by rw [hk]; exact hk0
        simp only [Utf8.valid, validUpTo_of_scalarLen_ne_zero _ hne, hk, List.length_drop]
        rw [hk] at hle
        simp only [List.length_cons] at hle ⊢
        rw [Bool.eq_iff_iff, beq_iff_eq, beq_iff_eq, eq_comm, Nat.sub_eq_iff_eq_add' hle, eq_comm]

theorem isUtf8_eq (bs : Bytes) : isUtf8 bs = Utf8.valid bs := isUtf8Fuel_eq _ _ (Nat.le_refl _)

theorem longestValid_eq (b : Bytes) (k : Nat) (h1 : validUpTo b ≤ k) (h2 : k ≤ b.length) :
    longestValid b k = validPrefix b := by
  induction k with
  | zero =>
    have : validUpTo b = 0 := Nat.eq_zero_of_le_zero h1
    simp [longestValid, validPrefix, this]
  | succ k ih =>
    unfold longestValid
    rw [isUtf8_eq]
    by_cases hv : Utf8.valid (b.take (k + 1)) = true
    · have := validPrefix_longest b (k + 1) h2 hv
      rw [validPrefix, List.length_take] at this
      rw [if_pos hv, validPrefix, show validUpTo b = k + 1 by omega]
    · rw [if_neg hv]
      refine ih (Decidable.byContradiction fun hlt => hv ?_) (Nat.le_of_succ_le h2)
      have := valid_validPrefix b
      rwa [validPrefix, Nat.le_antisymm h1 (Nat.lt_of_not_le hlt)] at this

theorem longestValid_self (b : Bytes) : longestValid b b.length = validPrefix b :=
  longestValid_eq b b.length (validUpTo_le b) (Nat.le_refl _)

end Dlt
