/-
  The offset-based `constructArguments` (Model/NonVerbose.lean) refines the
  consumer-style `Spec.construct` (Spec/NonVerbose.lean).
-/
import DltVerif.Model.NonVerbose
import DltVerif.Spec.NonVerbose
import DltVerif.Lemmas.ParserSat

namespace Dlt

/-- result of the model translated to the spec's vocabulary (`panic` has no counterpart) -/
def CRes.toOption {α : Type} : CRes α → Option (Option α)
  | .ok v => some (some v)
  | .err => some none
  | .panic => none

theorem slice_eq (data : Bytes) (off w : Nat) (h : off + w ≤ data.length) :
    slice data off (off + w) = some ((data.drop off).take w) := by
  have : off ≤ off + w ∧ off + w ≤ data.length := ⟨by omega, h⟩
  simp only [slice, this, and_self, if_true, Nat.add_sub_cancel_left]

theorem sliceFrom_eq (data : Bytes) (off : Nat) (h : off ≤ data.length) :
    sliceFrom data off = some (data.drop off) := by
  simp only [sliceFrom, h, if_true]

/-- `be_u8` is the 1-byte number reader, so that the 8-bit integers go the way of the wider ones -/
theorem dltSint_b8 (e : Endian) (i : Bytes) : dltSint e .b8 i = (bitsN e 1 i).map .i8 := by
  rw [dltSint, beU8_eq_uintN e]
  rfl

theorem dltUint_b8 (e : Endian) (i : Bytes) : dltUint e .b8 i = (bitsN e 1 i).map .u8 := by
  rw [dltUint, beU8_eq_uintN e]
  rfl

-- unhygienic on purpose: both macros use `hk`, `data`, `off`, `e`, `h` of `constructOne_refines`, where they are called
set_option hygiene false in
local macro "num_case " k:num rd:ident : tactic => `(tactic| (
  simp only [constructOne, hk, Spec.field, Spec.fixedWidth, TypeLength.bytes, FloatWidth.bytes]
  by_cases hl : data.length < off + $k
  · have hl' : (data.drop off).length < $k := by omega
    simp only [hl, hl', if_true]
  · have hl' : ¬ (data.drop off).length < $k := by omega
    simp only [hl, hl', if_false, sliceFrom_eq data off h, $rd:ident,
      bitsN_of_le e $k (data.drop off) (by omega), PRes.map_ok, List.drop_drop]
    exact ⟨_, rfl, by omega, by rw [Nat.add_comm]⟩))

set_option hygiene false in
local macro "float_case " k:num : tactic => `(tactic| (
  simp only [constructOne, hk, Spec.field, Spec.fixedWidth, FloatWidth.bytes]
  by_cases hl : data.length < off + $k
  · have hl' : (data.drop off).length < $k := by omega
    simp only [hl, hl', if_true]
  · have hl' : ¬ (data.drop off).length < $k := by omega
    have hs : $k ≤ ((data.drop off).take $k).length := by rw [List.length_take]; omega
    simp only [hl, hl', if_false, slice_eq data off $k (by omega), dltFint,
      bitsN_of_le e $k _ hs, PRes.map_ok, List.drop_drop, List.take_take, Nat.min_self]
    exact ⟨_, rfl, by omega, by rw [Nat.add_comm]⟩))

theorem constructOne_refines (e : Endian) (ti : TypeInfo) (data : Bytes) (off : Nat)
    (h : off ≤ data.length) :
    match Spec.field e ti.kind (data.drop off) with
    | none => constructOne e ti data off = .err
    | some (v, rest') =>
      ∃ off', constructOne e ti data off =
          .ok ({ typeInfo := ti, name := none, unit := none, fixedPoint := none, value := v }, off')
        ∧ off' ≤ data.length ∧ rest' = data.drop off' := by
  have hlen : (data.drop off).length = data.length - off := List.length_drop
  cases hk : ti.kind with
  | bool =>
    simp only [constructOne, hk, Spec.field, Spec.fixedWidth]
    by_cases hl : data.length < off + 1
    · have hl' : (data.drop off).length < 1 := by omega
      simp only [hl, hl', if_true]
    · have hl' : ¬ (data.drop off).length < 1 := by omega
      have hlt : off < data.length := by omega
      have h1 : (data.drop off).take 1 = [data[off]] := by
        rw [List.drop_eq_getElem_cons hlt]
        rfl
      simp only [hl, hl', if_false, Nat.add_sub_cancel, List.getElem?_eq_getElem hlt, h1,
        List.headD_cons, List.drop_drop]
      exact ⟨off + 1, rfl, by omega, rfl⟩
  | signed l =>
    cases l
    · num_case 1 dltSint_b8
    · num_case 2 dltSint
    · num_case 4 dltSint
    · num_case 8 dltSint
    · num_case 16 dltSint
  | unsigned l =>
    cases l
    · num_case 1 dltUint_b8
    · num_case 2 dltUint
    · num_case 4 dltUint
    · num_case 8 dltUint
    · num_case 16 dltUint
  | float w =>
    cases w
    · float_case 4
    · float_case 8
  | signedFixedPoint w | unsignedFixedPoint w =>
    simp only [constructOne, hk, Spec.field]
    by_cases hl : data.length < off + w.bytes
    · simp only [hl, if_true]
    · -- the reader wants `4 + w.bytes` bytes: given the `w.bytes` of the field it runs short
      obtain ⟨n, hn, _⟩ := (dltFixedPoint_takes e w).short (i := (data.drop off).take w.bytes)
        (by rw [List.length_take]; omega)
      simp only [hl, if_false, slice_eq data off w.bytes (by omega), hn]
  | stringType | raw =>
    simp only [constructOne, hk, Spec.field, List.drop_drop]
    by_cases hl : data.length < off + 2
    · have hl' : (data.drop off).length < 2 := by omega
      simp only [hl, hl', if_true]
    · have hl' : ¬ (data.drop off).length < 2 := by omega
      simp only [hl, hl', if_false, slice_eq data off 2 (by omega)]
      generalize e.value ((data.drop off).take 2) = len
      have hlen2 : (data.drop (off + 2)).length = data.length - (off + 2) := List.length_drop
      by_cases hl2 : data.length < off + 2 + len
      · have hl2' : (data.drop (off + 2)).length < len := by omega
        simp only [hl2, hl2', if_true]
      · have hl2' : ¬ (data.drop (off + 2)).length < len := by omega
        simp only [hl2, hl2', if_false, slice_eq data (off + 2) len (by omega)]
        by_cases hv : Utf8.valid ((data.drop (off + 2)).take len) = true <;>
          simp +decide only [hv, ↓reduceIte] <;> exact ⟨_, rfl, by omega, rfl⟩

theorem constructFrom_refines (e : Endian) (data : Bytes) (tis : List TypeInfo) (off : Nat)
    (h : off ≤ data.length) :
    (constructFrom e data tis off).toOption = some (Spec.construct e tis (data.drop off)) := by
  induction tis generalizing off with
  | nil => rfl
  | cons ti tis ih =>
    have h1 := constructOne_refines e ti data off h
    simp only [constructFrom, Spec.construct]
    split at h1
    · rename_i hf
      rw [h1, hf]
      rfl
    · rename_i v rest' hf
      obtain ⟨off', h2, h3, h4⟩ := h1
      have h5 := ih off' h3
      rw [h2, hf, h4]
      simp only
      cases hc : constructFrom e data tis off' <;> rw [hc] at h5 <;>
        simp only [CRes.toOption, Option.some.injEq, reduceCtorEq] at h5
      all_goals rw [← h5]; rfl

theorem Spec.field_append (e : Endian) (k : TypeInfoKind) (rest extra : Bytes) (v : Value)
    (rest' : Bytes) (h : Spec.field e k rest = some (v, rest')) :
    Spec.field e k (rest ++ extra) = some (v, rest' ++ extra) := by
  cases k with
  | bool | signed l | unsigned l | float w =>
    -- a fixed-width field: whatever the width and the constructor are
    simp only [Spec.field] at h ⊢
    split at h
    · cases h
    · rename_i w mk hfw
      simp only [Option.ite_none_left_eq_some, Option.some.injEq, Prod.mk.injEq] at h
      rw [if_neg (by rw [List.length_append]; omega), List.take_append_of_le_length (by omega),
        List.drop_append_of_le_length (by omega), h.2.1, h.2.2]
  | signedFixedPoint w | unsignedFixedPoint w => simp only [Spec.field] at h; cases h
  | stringType | raw =>
    simp only [Spec.field, Option.ite_none_left_eq_some] at h
    obtain ⟨hl, hl2, h⟩ := h
    simp only [Spec.field]
    rw [if_neg (by rw [List.length_append]; omega), List.take_append_of_le_length (by omega),
      List.drop_append_of_le_length (by omega), if_neg (by rw [List.length_append]; omega),
      List.take_append_of_le_length (by omega), List.drop_append_of_le_length (by omega)]
    by_cases hv : Utf8.valid ((rest.drop 2).take (e.value (rest.take 2))) = true <;>
      simp +decide only [hv, ↓reduceIte, Option.some.injEq, Prod.mk.injEq, reduceCtorEq] at h ⊢ <;>
      exact ⟨h.1, by rw [h.2]⟩

end Dlt
