/-
  `Reader::read_event` is local: what it does with the first XML event - go on with a changed
  state, or return - does not depend on the events behind it (behind the start tag of a text
  element: behind the text).
-/
import DltVerif.Spec.Fibex

namespace Dlt.Fibex
open Dlt.Fibex.Spec

/-- what `read_event` does with one XML event -/
inductive Act where
  | go (st : RState)
  | ret (r : Res Event) (st : RState)

def Act.run : Act → List XmlEv → Res Event × RState × List XmlEv
  | .go st, rest => readEvent st rest
  | .ret r st, rest => (r, st, rest)

/-- read off a run on an input that ends there: `Eof` is returned exactly when the reader would
    have gone on -/
def Act.ofLast : Res Event × RState × List XmlEv → Act
  | (.ok .eof, st, _) => .go st
  | (r, st, _) => .ret r st

/-- `read_event` run on the one event: `Act.ofLast` reads its `Eof` as "would have gone on" -/
def act (st : RState) (e : XmlEv) : Act := .ofLast (readEvent st [e])

/-- the start tag of a text element and the outcome of `read_text` -/
def actText (st : RState) (t : Tag) (txt : Option Bytes) : Act :=
  .ofLast (readEvent st (.start t [] :: match txt with | some s => [.text (some s)] | none => []))

def textStart : XmlEv → Bool
  | .start t _ => readsText t
  | _ => false

theorem readEvent_nil (st : RState) : readEvent st [] = (.ok .eof, st, []) := by rw [readEvent]

/-- locality: an event that does not open a text element is handled by `act` alone, whatever
    follows it -/
theorem readEvent_cons (st : RState) (e : XmlEv) (rest : List XmlEv) (h : textStart e = false) :
    readEvent st (e :: rest) = (act st e).run rest := by
  -- tag by tag: the clause of `readEvent` either returns, and never `Eof`, or calls itself on `rest`; on `[e]` that
  -- call is on `[]` and answers `Eof`, which `Act.ofLast` reads back as `go`
  cases e with
  | start t a =>
    cases t <;> simp [textStart, readsText] at h <;> simp only [readEvent, act] <;>
      (try split) <;> simp [*, Act.ofLast, Act.run]
  | empty t a =>
    cases t <;> simp only [readEvent, act] <;> (try split) <;> simp [*, Act.ofLast, Act.run]
  | end_ t =>
    cases t <;> simp only [readEvent, act] <;> (try split) <;> simp [*, Act.ofLast, Act.run]
  | _ => simp [readEvent, act, Act.ofLast, Act.run]

theorem readEvent_cons_text (st : RState) (t : Tag) (a : List Attr) {rest rest' : List XmlEv}
    {txt : Option Bytes} (h : readsText t = true) (hr : readText rest = (txt, rest')) :
    readEvent st (.start t a :: rest) = (actText st t txt).run rest' := by
  cases t <;> simp [readsText] at h <;> rw [readEvent]
  case DESC => simp only [hr]; cases txt <;> simp [actText, readEvent, readText, Act.ofLast, Act.run]
  -- the other text tags: `readEvent` branches on `readText rest`, which is `hr`; `actText` is the same clause, run on
  -- the text event alone
  all_goals
    split <;> (rename_i heq; rw [hr] at heq; cases heq) <;>
    simp [actText, readEvent, readText, Act.ofLast, Act.run] <;> (try split) <;> simp [*]

theorem Act.run_invisible (T : List XmlEv → List XmlEv) (A : Act) (rest : List XmlEv)
    (ih : ∀ st, readEvent st (T rest)
      = ((readEvent st rest).1, (readEvent st rest).2.1, T (readEvent st rest).2.2)) :
    A.run (T rest) = ((A.run rest).1, (A.run rest).2.1, T (A.run rest).2.2) := by
  cases A with
  | go st => exact ih st
  | ret r st => rfl

theorem readText_cons (x : XmlEv) (rest : List XmlEv) :
    readText (x :: rest) = ((readText [x]).1, rest) := by
  cases x with
  | text t => cases t <;> rfl
  | _ => rfl

theorem isGap_cases (e : XmlEv) (h : isGap e = true) :
    e = .other ∨ (∃ t, e = .text t) ∨ (∃ a, e = .start .other a) ∨ (∃ a, e = .empty .other a)
      ∨ e = .end_ .other := by
  cases e with
  | start t a => cases t <;> simp_all [isGap]
  | empty t a => cases t <;> simp_all [isGap]
  | end_ t => cases t <;> simp_all [isGap]
  | err => simp [isGap] at h
  | _ => simp

theorem readEvent_gap (st : RState) (e : XmlEv) (rest : List XmlEv) (h : isGap e = true) :
    readEvent st (e :: rest) = readEvent st rest := by
  rcases isGap_cases e h with rfl | ⟨t, rfl⟩ | ⟨a, rfl⟩ | ⟨a, rfl⟩ | rfl <;>
    (rw [readEvent_cons _ _ _ rfl]; simp [act, readEvent, Act.ofLast, Act.run])

end Dlt.Fibex
