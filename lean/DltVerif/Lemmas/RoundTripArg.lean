/-
  Round trip of verbose arguments: `dlt_argument` inverts `Argument::as_bytes` on
  well-formed arguments, for every byte order and whatever follows.
-/
import DltVerif.Model.Decode
import DltVerif.Lemmas.Basic
import DltVerif.Lemmas.TypeInfoWord

namespace Dlt

theorem dltTypeInfo_asBytes (e : Endian) (t : TypeInfo) (h : t.coding.canonical = true) :
    Decodes (dltTypeInfo e) (t.asBytes e) t := by
  intro r
  unfold dltTypeInfo TypeInfo.asBytes
  rw [bitsN_bytes e 4 t.toU32, PRes.andThen_ok, ti_reencode t h]

theorem textOk_inv {s : Bytes} (h : textOk s = true) :
    noNul s = true ∧ Utf8.valid s = true ∧ s.length + 1 ≤ 65535 := by
  simpa [textOk, and_assoc] using h

theorem lenPlus1_eq {n : Nat} (h : n + 1 ≤ 65535) : lenPlus1 n = n + 1 := by
  unfold lenPlus1 asU16; omega

theorem lenPlus1_lt (n : Nat) : lenPlus1 n < 256 ^ 2 := Nat.mod_lt _ (by decide)

theorem asU16_lt (n : Nat) : asU16 n < 256 ^ 2 := Nat.mod_lt _ (by decide)

theorem lenPlus1Overflows_textOk {s : Bytes} (h : textOk s = true) :
    lenPlus1Overflows s.length = false := by
  have := (textOk_inv h).2.2
  simp only [lenPlus1Overflows, asU16, beq_eq_false_iff_ne, ne_eq]
  omega

theorem optText_inv {b : Bool} {o : Option Bytes} (h : optText b o = true) :
    b = o.isSome ∧ ∀ s, o = some s → textOk s = true := by
  cases o <;> cases b <;> simp_all [optText]

def textBytes (s : Bytes) : Bytes := s ++ [0#8]

theorem zts_text (s : Bytes) (h : textOk s = true) :
    Decodes (zts (lenPlus1 s.length)) (textBytes s) s := by
  obtain ⟨h1, h2, h3⟩ := textOk_inv h
  rw [lenPlus1_eq h3]
  exact zts_terminated s h1 h2

theorem dltVariableName_enc (e : Endian) (n : Bytes) (h : textOk n = true) :
    Decodes (dltVariableName e) (e.bytes 2 (lenPlus1 n.length) ++ textBytes n) n :=
  (uintN_bytes e 2 _ (lenPlus1_lt _)).bind (zts_text n h)

/-- the optional name of the bool / string / raw layouts -/
def optNameBytes (e : Endian) : Option Bytes → Bytes :=
  optBytes fun n => e.bytes 2 (lenPlus1 n.length) ++ textBytes n

theorem optName_enc (e : Endian) (vari : Bool) (name : Option Bytes)
    (h : optText vari name = true) :
    Decodes (fun i => if vari = true then (dltVariableName e i).map some else .ok none i)
      (optNameBytes e name) name := by
  obtain ⟨rfl, ht⟩ := optText_inv h
  exact Decodes.optional fun n hn => dltVariableName_enc e n (ht n hn)

/-- the name/unit block of the numeric layouts -/
def nameUnitBytes (e : Endian) : Option Bytes → Option Bytes → Bytes
  | some n, some u =>
    e.bytes 2 (lenPlus1 n.length) ++ (e.bytes 2 (lenPlus1 u.length) ++ (textBytes n ++ textBytes u))
  | _, _ => []

theorem dltVariableNameAndUnit_enc (e : Endian) (ti : TypeInfo) (name unit : Option Bytes)
    (hn : optText ti.hasVariableInfo name = true) (hu : optText ti.hasVariableInfo unit = true) :
    Decodes (dltVariableNameAndUnit e ti) (nameUnitBytes e name unit) (name, unit) := by
  obtain ⟨h1, tn⟩ := optText_inv hn
  obtain ⟨h2, tu⟩ := optText_inv hu
  unfold dltVariableNameAndUnit
  rw [h1] at h2 ⊢
  cases name <;> cases unit <;> try cases h2
  · exact fun _ => rfl
  · exact (uintN_bytes e 2 _ (lenPlus1_lt _)).bind ((uintN_bytes e 2 _ (lenPlus1_lt _)).bind
      ((zts_text _ (tn _ rfl)).bind ((zts_text _ (tu _ rfl)).bind_ok _)))

def fixedPointBytes (e : Endian) : Option FixedPoint → Bytes :=
  optBytes fun fp => e.bytes 4 fp.quantization.toNat
    ++ (match fp.offset with
        | .i32 v => e.bytes 4 v.toNat
        | .i64 v => e.bytes 8 v.toNat)

theorem bufTypeInfoNameUnit_eq (e : Endian) (info : TypeInfo) (name unit : Option Bytes)
    (fp : Option FixedPoint) (hn : optText info.hasVariableInfo name = true)
    (hu : optText info.hasVariableInfo unit = true) :
    bufTypeInfoNameUnit e info name unit fp
      = info.asBytes e ++ (nameUnitBytes e name unit ++ fixedPointBytes e fp) := by
  obtain ⟨h1, -⟩ := optText_inv hn
  obtain ⟨h2, -⟩ := optText_inv hu
  unfold bufTypeInfoNameUnit
  rw [h1] at h2 ⊢
  cases name <;> cases unit <;> cases h2 <;> cases fp <;>
    simp only [nameUnitBytes, fixedPointBytes, optBytes, textBytes, Option.isSome, if_true,
      Bool.false_eq_true, if_false, List.append_assoc, List.nil_append] <;> rfl

theorem bufTypeInfoName_eq (e : Endian) (info : TypeInfo) (name : Option Bytes) :
    bufTypeInfoName e info name = info.asBytes e ++ optNameBytes e name := by
  cases name <;> simp only [bufTypeInfoName, optNameBytes, optBytes, textBytes, List.append_assoc]

theorem asBytes_string (e : Endian) (coding : StringCoding) (vari trai : Bool)
    (name unit : Option Bytes) (fp : Option FixedPoint) (s : Bytes)
    (hn : optText vari name = true) :
    Argument.asBytes e ⟨⟨.stringType, coding, vari, trai⟩, name, unit, fp, .stringVal s⟩
      = TypeInfo.asBytes e ⟨.stringType, coding, vari, trai⟩
          ++ (e.bytes 2 (lenPlus1 s.length) ++ (optNameBytes e name ++ textBytes s)) := by
  obtain ⟨rfl, -⟩ := optText_inv hn
  cases name <;>
    simp only [Argument.asBytes, optNameBytes, optBytes, textBytes, Option.isSome, List.append_assoc,
      List.nil_append]

theorem asBytes_raw (e : Endian) (coding : StringCoding) (vari trai : Bool)
    (name unit : Option Bytes) (fp : Option FixedPoint) (b : Bytes)
    (hn : optText vari name = true) :
    Argument.asBytes e ⟨⟨.raw, coding, vari, trai⟩, name, unit, fp, .raw b⟩
      = TypeInfo.asBytes e ⟨.raw, coding, vari, trai⟩
          ++ (e.bytes 2 (asU16 b.length) ++ (optNameBytes e name ++ b)) := by
  obtain ⟨rfl, -⟩ := optText_inv hn
  cases name <;>
    simp only [Argument.asBytes, optNameBytes, optBytes, textBytes, Option.isSome, List.append_assoc,
      List.nil_append]

theorem dltArgument_asBytes (e : Endian) (a : Argument) (h : a.wf = true) :
    Decodes (dltArgument e) (a.asBytes e) a := by
  obtain ⟨⟨kind, coding, vari, trai⟩, name, unit, fp, value⟩ := a
  simp only [Argument.wf, Bool.and_eq_true] at h
  obtain ⟨hc, h⟩ := h
  split at h
  -- rows of the `match` in `Argument.wf`: h_1 = bool, h_2..h_17 = the 16 numeric rows, h_18 = string,
  -- h_19 = raw, h_20 = catch-all
  case h_20 => exact absurd h (by simp)
  case h_1 =>
    simp only [Bool.and_eq_true, Option.isNone_iff_eq_none] at h
    obtain ⟨hn, rfl⟩ := h
    simp only [Argument.asBytes, bufTypeInfoName_eq, List.append_assoc]
    refine (dltTypeInfo_asBytes e ⟨_, coding, vari, trai⟩ hc).bind ?_
    exact (optName_enc e vari name hn).bind ((beU8_cons _).bind_ok _)
  case h_18 s =>
    simp only [Bool.and_eq_true, Option.isNone_iff_eq_none] at h
    obtain ⟨⟨hn, rfl⟩, hs⟩ := h
    rw [asBytes_string e _ _ _ _ _ _ _ hn]
    refine (dltTypeInfo_asBytes e ⟨_, coding, vari, trai⟩ hc).bind ?_
    exact (uintN_bytes e 2 _ (lenPlus1_lt _)).bind
      ((optName_enc e vari name hn).bind ((zts_text s hs).bind_ok _))
  case h_19 b =>
    simp only [Bool.and_eq_true, Option.isNone_iff_eq_none, decide_eq_true_eq] at h
    obtain ⟨⟨hn, rfl⟩, hb⟩ := h
    rw [asBytes_raw e _ _ _ _ _ _ _ hn]
    refine (dltTypeInfo_asBytes e ⟨_, coding, vari, trai⟩ hc).bind ?_
    exact (uintN_bytes e 2 _ (asU16_lt _)).bind ((optName_enc e vari name hn).bind
      ((take_decodes _ b (by unfold asU16; omega)).bind_ok _))
  all_goals
    simp only [Bool.and_eq_true] at h
    simp only [Argument.asBytes, bufTypeInfoNameUnit_eq e ⟨_, coding, vari, trai⟩ _ _ _ h.1 h.2,
      List.append_assoc]
    refine (dltTypeInfo_asBytes e ⟨_, coding, vari, trai⟩ hc).bind ?_
    refine (dltVariableNameAndUnit_enc e ⟨_, coding, vari, trai⟩ _ _ h.1 h.2).bind ?_
    -- what is left is the fixed-point part, if any, and the value: plain numbers
    intro r
    simp only [fixedPointBytes, optBytes, dltFixedPoint, FloatWidth.toTypeLength, dltSint, dltUint,
      dltFint, putSignedValue, putUnsignedValue, putFloatValue, List.append_assoc, List.nil_append,
      List.cons_append, bitsN_bytes e 2, bitsN_bytes e 4, bitsN_bytes e 8, bitsN_bytes e 16, beU8,
      PRes.map_ok, PRes.andThen_ok]

theorem lenPlus1_ok_of_optText {vari : Bool} {s : Bytes} (h : optText vari (some s) = true) :
    lenPlus1Overflows s.length = false := by
  simp only [optText, Bool.and_eq_true] at h
  exact lenPlus1Overflows_textOk h.2

theorem Argument.wf_not_panics (a : Argument) (h : a.wf = true) : a.asBytesPanics = false := by
  obtain ⟨⟨kind, coding, vari, trai⟩, name, unit, fp, value⟩ := a
  simp only [Argument.wf, Bool.and_eq_true] at h
  obtain ⟨hc, h⟩ := h
  split at h
  -- rows of the `match` in `Argument.wf`: h_1 = bool, h_2..h_17 = the 16 numeric rows, h_18 = string,
  -- h_19 = raw, h_20 = catch-all
  case h_20 => exact absurd h (by simp)
  case h_1 =>
    simp only [Bool.and_eq_true] at h
    obtain ⟨h1, _⟩ := h
    rcases name with _ | n
    · simp [Argument.asBytesPanics]
    · simp [Argument.asBytesPanics, lenPlus1_ok_of_optText h1]
  case h_18 s =>
    simp only [Bool.and_eq_true] at h
    obtain ⟨⟨hn, _⟩, hs⟩ := h
    cases vari <;> cases name <;> simp [optText] at hn <;>
      simp [Argument.asBytesPanics, lenPlus1Overflows_textOk, hs, hn]
  case h_19 b =>
    simp only [Bool.and_eq_true] at h
    obtain ⟨⟨hn, _⟩, _⟩ := h
    cases vari <;> cases name <;> simp [optText] at hn <;>
      simp [Argument.asBytesPanics, lenPlus1Overflows_textOk, hn]
  all_goals
    simp only [Bool.and_eq_true] at h
    obtain ⟨h1, h2⟩ := h
    rcases name with _ | n <;> rcases unit with _ | u
    · simp [Argument.asBytesPanics]
    · simp [Argument.asBytesPanics, lenPlus1_ok_of_optText h2]
    · simp [Argument.asBytesPanics, lenPlus1_ok_of_optText h1]
    · simp [Argument.asBytesPanics, lenPlus1_ok_of_optText h1, lenPlus1_ok_of_optText h2]

theorem count_dltArgument_asBytes (e : Endian) (args : List Argument)
    (h : args.all Argument.wf = true) :
    Decodes (count (dltArgument e) args.length) (args.map (Argument.asBytes e)).flatten args :=
  Decodes.count _ args fun a ha => dltArgument_asBytes e a (List.all_eq_true.mp h a ha)

/-- the arguments a network-trace payload is read back as: plain raw-data arguments -/
def rawArg (s : Bytes) : Argument :=
  { typeInfo := { kind := .raw, coding := .ascii, hasVariableInfo := false, hasTraceInfo := false }
    name := none, unit := none, fixedPoint := none, value := .raw s }

theorem rawArg_asBytes (e : Endian) (s : Bytes) :
    (rawArg s).asBytes e = e.bytes 4 TYPE_INFO_RAW_FLAG.toNat ++ e.bytes 2 (asU16 s.length) ++ s := by
  have : TypeInfo.toU32 ⟨.raw, .ascii, false, false⟩ = TYPE_INFO_RAW_FLAG := by decide
  simp only [rawArg, Argument.asBytes, TypeInfo.asBytes, this]

theorem rawArg_wf (s : Bytes) (h : s.length ≤ 65535) : (rawArg s).wf = true := by
  simp [rawArg, Argument.wf, StringCoding.canonical, optText, h]

theorem count_dltArgument_networkTrace (e : Endian) (slices : List Bytes)
    (h : slices.all (fun s => decide (s.length ≤ 65535)) = true) :
    Decodes (count (dltArgument e) slices.length) ((PayloadContent.networkTrace slices).asBytes e)
      (slices.map rawArg) := by
  have := Decodes.count (Argument.asBytes e) (slices.map rawArg) (p := dltArgument e) (by
    simp only [List.mem_map]
    rintro _ ⟨s, hs, rfl⟩
    exact dltArgument_asBytes e _ (rawArg_wf s (by simpa using List.all_eq_true.mp h s hs)))
  simpa only [List.length_map, List.map_map, Function.comp_def, rawArg_asBytes,
    PayloadContent.asBytes] using this

end Dlt
