/-
  The three loops over `read_event` (`read_pdu`, `read_frame`, the file loop of `read_fibexes`),
  one turn at a time.  The model's `match h : readEvent st evs with ..` keeps `h` for the
  termination proof, and no rewrite goes through under it; the step equations state the same
  `match` without `h`.  From them alone: the loops cannot see a transformation of the event list
  that `read_event` cannot see.
-/
import DltVerif.Model.Fibex

namespace Dlt.Fibex

theorem readPdu_step (st : RState) (evs : List XmlEv) (acc : List (Nat × Bytes)) :
    readPdu st evs acc = match readEvent st evs with
      | (.err, st', evs') => (.err, st', evs')
      | (.panic, st', evs') => (.panic, st', evs')
      | (.ok (.signalInstance _ sn r), st', evs') => readPdu st' evs' (acc ++ [(sn, r)])
      | (.ok (.pduEnd _ desc _), st', evs') => (.ok (desc, (sortByKey acc).map (·.2)), st', evs')
      | (.ok .eof, st', evs') => (.err, st', evs')
      | (.ok _, st', evs') => readPdu st' evs' acc := by
  rw [readPdu]
  split <;> rename_i h <;> (conv => rhs; rw [h])
  cases ‹Event› <;> rfl

theorem readFrame_step (st : RState) (evs : List XmlEv) (acc : List (Nat × Bytes)) (ext : FrameExt) :
    readFrame st evs acc ext = match readEvent st evs with
      | (.err, st', evs') => (.err, st', evs')
      | (.panic, st', evs') => (.panic, st', evs')
      | (.ok (.pduInstance _ r sn), st', evs') => readFrame st' evs' (acc ++ [(sn, r)]) ext
      | (.ok (.manufacturerExtension mt mi app ctx), st', evs') =>
        readFrame st' evs' acc { contextId := ctx, applicationId := app, messageType := mt, messageInfo := mi }
      | (.ok (.frameEnd sn _), st', evs') =>
        (.ok { shortName := sn, contextId := ext.contextId, applicationId := ext.applicationId
               messageType := ext.messageType, messageInfo := ext.messageInfo
               pduRefs := (sortByKey acc).map (·.2) }, st', evs')
      | (.ok .eof, st', evs') => (.err, st', evs')
      | (.ok _, st', evs') => readFrame st' evs' acc ext := by
  rw [readFrame]
  split <;> rename_i h <;> (conv => rhs; rw [h])
  cases ‹Event› <;> rfl

theorem readFile_step (st : RState) (evs : List XmlEv) (acc : Acc) :
    readFile st evs acc = match readEvent st evs with
      | (.err, _, _) => .err
      | (.panic, _, _) => .panic
      | (.ok .eof, _, _) => .ok acc
      | (.ok (.pduStart id), st', evs') =>
        (match readPdu st' evs' [] with
         | (.ok p, st'', evs'') => readFile st'' evs'' { acc with pdus := acc.pdus ++ [(id, p)] }
         | (.err, _, _) => .err
         | (.panic, _, _) => .panic)
      | (.ok (.frameStart id), st', evs') =>
        (match readFrame st' evs' [] {} with
         | (.ok f, st'', evs'') => readFile st'' evs'' { acc with frames := acc.frames ++ [(id, f)] }
         | (.err, _, _) => .err
         | (.panic, _, _) => .panic)
      | (.ok (.signal id codingRef), st', evs') =>
        readFile st' evs' { acc with signals := insertKV acc.signals id codingRef }
      | (.ok (.coding id base), st', evs') =>
        readFile st' evs' { acc with codings := insertKV acc.codings id base }
      | (.ok _, st', evs') => readFile st' evs' acc := by
  rw [readFile]
  split <;> rename_i h <;> (conv => rhs; rw [h])
  cases ‹Event› <;> first
    | rfl
    | (simp only []; split <;> (rename_i hq; simp only [hq]))

/-- a transformation of event lists that `read_event` cannot see: same event, same state, and
    the remainder is the transformed remainder -/
def Invisible (T : List XmlEv → List XmlEv) : Prop :=
  ∀ (st : RState) (evs : List XmlEv),
    readEvent st (T evs) = ((readEvent st evs).1, (readEvent st evs).2.1, T (readEvent st evs).2.2)

theorem Invisible.comp {T U : List XmlEv → List XmlEv} (hT : Invisible T) (hU : Invisible U) :
    Invisible (T ∘ U) := by
  intro st evs
  simp only [Function.comp_def]
  rw [hT st (U evs), hU st evs]

section
variable {T : List XmlEv → List XmlEv} (hT : Invisible T)
include hT

/-- along the run of `read_pdu` on `evs`, the run on `T evs` takes the same turn each time -/
theorem readPdu_invisible (st : RState) (evs : List XmlEv) (acc : List (Nat × Bytes)) :
    readPdu st (T evs) acc
      = ((readPdu st evs acc).1, (readPdu st evs acc).2.1, T (readPdu st evs acc).2.2) := by
  fun_induction readPdu st evs acc
  all_goals
    rw [readPdu_step _ (T _), hT, ‹readEvent _ _ = _›]
    try assumption

theorem readFrame_invisible (st : RState) (evs : List XmlEv) (acc : List (Nat × Bytes))
    (ext : FrameExt) :
    readFrame st (T evs) acc ext
      = ((readFrame st evs acc ext).1, (readFrame st evs acc ext).2.1,
         T (readFrame st evs acc ext).2.2) := by
  fun_induction readFrame st evs acc ext
  all_goals
    rw [readFrame_step _ (T _), hT, ‹readEvent _ _ = _›]
    try assumption

theorem readFile_invisible (st : RState) (evs : List XmlEv) (acc : Acc) :
    readFile st (T evs) acc = readFile st evs acc := by
  fun_induction readFile st evs acc
  all_goals
    rw [readFile_step _ (T _), hT, ‹readEvent _ _ = _›]
    try simp only []
  -- what is left are the turns that go on: behind a PDU or FRAME start tag the inner loop
  -- returns the same and leaves `T` of the same remainder
  all_goals first
    | assumption
    | (rw [readPdu_invisible hT, ‹readPdu _ _ _ = _›] <;> assumption)
    | (rw [readFrame_invisible hT, ‹readFrame _ _ _ _ = _›] <;> assumption)

theorem readFiles_invisible (files : List (List XmlEv)) (acc : Acc) :
    readFiles (files.map fun evs => some (T evs)) acc
      = readFiles (files.map some) acc := by
  induction files generalizing acc with
  | nil => rfl
  | cons evs files ih =>
    simp only [List.map_cons, readFiles]
    rw [readFile_invisible hT]
    cases readFile {} evs acc with
    | ok acc' => exact ih acc'
    | err => rfl
    | panic => rfl

end

theorem gatherFibexData_seen {T : List XmlEv → List XmlEv} (hT : Invisible T)
    (files files' : List (List XmlEv)) (h : files.map T = files'.map T) :
    gatherFibexData (files.map some) = gatherFibexData (files'.map some) := by
  have key : ∀ fs : List (List XmlEv), gatherFibexData (fs.map some) = gatherFibexData ((fs.map T).map some) := by
    intro fs
    unfold gatherFibexData readFibexes
    rw [List.map_map, ← readFiles_invisible hT fs {}]
    cases fs <;> rfl
  rw [key files, key files', h]

end Dlt.Fibex
