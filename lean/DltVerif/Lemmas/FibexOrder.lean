/-
  C11: the order of the elements in the documents does not matter when ids are distinct
  (`*_perm`); the sort by key is a sorted permutation; when the Spec yields no model at all
  (`Spec.model_eq_none_iff`).
-/
import DltVerif.Lemmas.FibexBuild

namespace Dlt.Fibex
open Dlt.Fibex.Spec

theorem insertByKey_perm {α : Type} (x : Nat × α) (l : List (Nat × α)) :
    (insertByKey x l).Perm (x :: l) := by
  induction l with
  | nil => exact List.Perm.refl _
  | cons y ys ih =>
    unfold insertByKey
    split
    · exact List.Perm.refl _
    · exact (List.Perm.cons y ih).trans (List.Perm.swap x y ys)

theorem sortByKey_perm {α : Type} (l : List (Nat × α)) : (sortByKey l).Perm l := by
  induction l with
  | nil => exact List.Perm.refl _
  | cons x xs ih =>
    unfold sortByKey
    exact (insertByKey_perm x _).trans (List.Perm.cons x ih)

theorem insertByKey_sorted {α : Type} (x : Nat × α) (l : List (Nat × α))
    (h : l.Pairwise (fun a b => a.1 ≤ b.1)) : (insertByKey x l).Pairwise (fun a b => a.1 ≤ b.1) := by
  induction l with
  | nil => simp [insertByKey]
  | cons y ys ih =>
    unfold insertByKey
    rw [List.pairwise_cons] at h
    split <;> rename_i hxy <;> rw [List.pairwise_cons]
    · exact ⟨List.forall_mem_cons.mpr ⟨hxy, fun b hb => Nat.le_trans hxy (h.1 b hb)⟩, List.pairwise_cons.mpr h⟩
    · exact ⟨fun b hb => List.forall_mem_cons.mpr ⟨by omega, h.1⟩ b ((insertByKey_perm x ys).mem_iff.mp hb),
        ih h.2⟩

theorem sortByKey_sorted {α : Type} (l : List (Nat × α)) :
    (sortByKey l).Pairwise (fun a b => a.1 ≤ b.1) := by
  induction l with
  | nil => simp [sortByKey]
  | cons x xs ih => exact insertByKey_sorted x _ ih

/-- a predicate that holds of entries of one key only finds the same entry in every order -/
theorem find?_perm_of {α : Type} (p : α → Bool) (key : α → Bytes) {l l' : List α} (hp : l.Perm l')
    (hn : (l.map key).Nodup) (hk : ∀ a b, p a = true → p b = true → key a = key b) :
    l.find? p = l'.find? p := by
  induction hp with
  | nil => rfl
  | cons x _ ih =>
    rw [List.map_cons, List.nodup_cons] at hn
    rw [List.find?_cons, List.find?_cons, ih hn.2]
  | swap x y l =>
    rw [List.map_cons, List.map_cons, List.nodup_cons] at hn
    simp only [List.find?_cons]
    cases hx : p x <;> cases hy : p y <;> try rfl
    exact absurd (hk y x hy hx) fun h => hn.1 (by rw [h]; exact List.mem_cons_self ..)
  | trans p1 _ ih1 ih2 => rw [ih1 hn, ih2 ((p1.map key).nodup_iff.mp hn)]

theorem find?_perm {α : Type} (key : α → Bytes) (k : Bytes) {l l' : List α} (hp : l.Perm l')
    (hn : (l.map key).Nodup) :
    l.find? (fun x => key x == k) = l'.find? (fun x => key x == k) :=
  find?_perm_of _ key hp hn fun _ _ ha hb => (beq_iff_eq.mp ha).trans (beq_iff_eq.mp hb).symm

/-- distinct keys: the last definition is the only one, so `lastOf` is a `find?` -/
theorem lastOf_eq_find (l : List (Bytes × Bytes)) (hn : (l.map (·.1)).Nodup) (k : Bytes) :
    lastOf l k = (l.find? (fun e => e.1 == k)).map (·.2) := by
  unfold lastOf
  have hp : l.reverse.Perm l := List.reverse_perm l
  have hn' : (l.reverse.map (·.1)).Nodup := (hp.map (·.1)).nodup_iff.mpr hn
  rw [find?_perm (·.1) k hp hn']

theorem lastOf_perm {l l' : List (Bytes × Bytes)} (hp : l.Perm l') (hn : (l.map (·.1)).Nodup)
    (k : Bytes) : lastOf l k = lastOf l' k := by
  rw [lastOf_eq_find l hn, lastOf_eq_find l' ((hp.map (·.1)).nodup_iff.mp hn),
    find?_perm (·.1) k hp hn]

/-- the ids of each kind of element are pairwise distinct -/
def DistinctIds (es : List Elem) : Prop :=
  ((pdusOf es).map (·.id)).Nodup ∧ ((framesOf es).map (·.id)).Nodup
    ∧ ((signalsOf es).map (·.1)).Nodup ∧ ((codingsOf es).map (·.1)).Nodup

theorem typeOf_perm {es es' : List Elem} (hp : es.Perm es') (hd : DistinctIds es) :
    typeOf es = typeOf es' := by
  funext ref
  unfold typeOf
  apply typeInfoForSignalRef_congr <;> intro k <;> rw [lookupKV_inForce_self, lookupKV_inForce_self]
  · exact lastOf_perm (hp.filterMap _) hd.2.2.1 k
  · exact lastOf_perm (hp.filterMap _) hd.2.2.2 k

theorem frameMeta_perm {es es' : List Elem} (hp : es.Perm es') (hd : DistinctIds es) :
    frameMeta es = frameMeta es' := by
  have h1 : firstPdu es = firstPdu es' :=
    funext fun r => find?_perm (fun (p : PduDoc) => p.id) r (hp.filterMap _) hd.1
  funext f
  unfold frameMeta pduMeta
  rw [h1, typeOf_perm hp hd]

/-- the frame a predicate on one id finds, with its metadata, in every order of the elements -/
theorem frames_perm {es es' : List Elem} (hp : es.Perm es') (hd : DistinctIds es) (p : FrameDoc → Bool)
    (hk : ∀ a b, p a = true → p b = true → a.id = b.id) :
    ((framesOf es).find? p).bind (frameMeta es) = ((framesOf es').find? p).bind (frameMeta es') := by
  rw [frameMeta_perm hp hd]
  exact congrArg (Option.bind · _) (find?_perm_of p (·.id) (hp.filterMap _) hd.2.1 hk)

theorem mem_framesOf (es : List Elem) (f : FrameDoc) : f ∈ framesOf es ↔ Elem.frame f ∈ es := by
  unfold framesOf
  rw [List.mem_filterMap]
  constructor
  · rintro ⟨e, he, h⟩; cases e <;> simp_all
  · exact fun h => ⟨_, h, rfl⟩

theorem firstPdu_isSome (es : List Elem) (r : Bytes) :
    (firstPdu es r).isSome = true ↔ ∃ p, Elem.pdu p ∈ es ∧ p.id = r := by
  unfold firstPdu pdusOf
  rw [List.find?_isSome]
  simp only [List.mem_filterMap, beq_iff_eq]
  constructor
  · rintro ⟨p, ⟨e, he, h⟩, hp⟩
    cases e <;> simp only [Option.some.injEq, reduceCtorEq] at h
    subst h; exact ⟨_, he, hp⟩
  · rintro ⟨p, hp, h⟩; exact ⟨p, ⟨_, hp, rfl⟩, h⟩

theorem mem_ordered (l : List Inst) (r : Bytes) : r ∈ ordered l ↔ ∃ i ∈ l, i.ref = r := by
  unfold ordered
  simp only [List.mem_map, (sortByKey_perm _).mem_iff]
  constructor
  · rintro ⟨_, ⟨i, hi, rfl⟩, rfl⟩; exact ⟨i, hi, rfl⟩
  · rintro ⟨i, hi, rfl⟩; exact ⟨_, ⟨i, hi, rfl⟩, rfl⟩

theorem frameMeta_isSome (es : List Elem) (f : FrameDoc) :
    (frameMeta es f).isSome = (ordered f.pdus).all fun r => (firstPdu es r).isSome := by
  unfold frameMeta
  simp only
  split <;> simp_all

theorem Spec.model_eq_none_iff (files : List FileDoc) :
    Spec.model files = none ↔
      ∃ f i, Elem.frame f ∈ files.flatten ∧ i ∈ f.pdus ∧ ∀ p, Elem.pdu p ∈ files.flatten → p.id ≠ i.ref := by
  rw [← Option.not_isSome_iff_eq_none, Spec.model_isSome]
  simp only [List.all_eq_true, frameMeta_isSome, mem_framesOf, mem_ordered, firstPdu_isSome]
  constructor
  · intro h
    apply Classical.byContradiction
    intro hn
    apply h
    rintro f hf r ⟨i, hi, rfl⟩
    apply Classical.byContradiction
    intro hp
    exact hn ⟨f, i, hf, hi, fun p hpe hid => hp ⟨p, hpe, hid⟩⟩
  · rintro ⟨f, i, hf, hi, hunk⟩ h
    obtain ⟨p, hp, hid⟩ := h f hf i.ref ⟨i, hi, rfl⟩
    exact hunk p hp hid

end Dlt.Fibex
