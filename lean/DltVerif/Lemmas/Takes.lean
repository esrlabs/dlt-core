/-
  Readers of a fixed number of bytes: `Needs n p Post` / `Takes n p P` say that `p` asks for
  more on fewer than `n` bytes, with a size hint between 1 and the shortfall, and otherwise
  consumes exactly `n` bytes.  `Takes.bind` composes them, so the bound on the hint is proved
  once for every chain of readers.
-/
import DltVerif.Lemmas.Basic

namespace Dlt

/-- `p` needs exactly `n` bytes: on a shorter input it answers `incomplete` with a size hint of at
    least 1 and at most the number of missing bytes; otherwise `Post` holds of its answer and of
    the input behind the `n` bytes -/
structure Needs {α : Type} (n : Nat) (p : Bytes → PRes α) (Post : PRes α → Bytes → Prop) : Prop where
  short : ∀ {i : Bytes}, i.length < n → ∃ k, p i = .incomplete (some k) ∧ 1 ≤ k ∧ k ≤ n - i.length
  long : ∀ {i : Bytes}, n ≤ i.length → Post (p i) (i.drop n)

/-- `p` needs exactly `n` bytes and then succeeds, consuming them, with a value satisfying `P` -/
def Takes {α : Type} (n : Nat) (p : Bytes → PRes α) (P : α → Prop) : Prop :=
  Needs n p fun o r => ∃ v, o = .ok v r ∧ P v

theorem Needs.zero {α : Type} {p : Bytes → PRes α} {Post : PRes α → Bytes → Prop}
    (h : ∀ i, Post (p i) i) : Needs 0 p Post :=
  ⟨fun c => absurd c (Nat.not_lt_zero _), fun _ => h _⟩

theorem Takes.bind {α β : Type} {n m : Nat} {p : Bytes → PRes α} {P : α → Prop}
    {q : α → Bytes → PRes β} {Post : PRes β → Bytes → Prop}
    (hp : Takes n p P) (hq : ∀ v, P v → Needs m (q v) Post) :
    Needs (n + m) (fun i => (p i).andThen q) Post := by
  refine ⟨fun {i} c => ?_, fun {i} c => ?_⟩
  · by_cases c1 : i.length < n
    · obtain ⟨k, hk, k1, k2⟩ := hp.short c1
      exact ⟨k, by simp only [hk, PRes.andThen_incomplete], k1, by omega⟩
    · have c1 := Nat.le_of_not_lt c1
      obtain ⟨v, hv, pv⟩ := hp.long c1
      obtain ⟨k, hk, k1, k2⟩ := (hq v pv).short (i := i.drop n)
        (by rw [List.length_drop]; exact Nat.sub_lt_left_of_lt_add c1 c)
      rw [List.length_drop] at k2
      exact ⟨k, by simp only [hv, PRes.andThen_ok, hk], k1, by omega⟩
  · obtain ⟨v, hv, pv⟩ := hp.long (i := i) (by omega)
    have := (hq v pv).long (i := i.drop n) (by rw [List.length_drop]; exact Nat.le_sub_of_add_le' c)
    rw [List.drop_drop] at this
    simp only [hv, PRes.andThen_ok]
    exact this

theorem Takes.map {α β : Type} {n : Nat} {p : Bytes → PRes α} {P : α → Prop} {Q : β → Prop}
    (hp : Takes n p P) (f : α → β) (hf : ∀ v, P v → Q (f v)) :
    Takes n (fun i => (p i).map f) Q := by
  refine ⟨fun c => ?_, fun c => ?_⟩
  · obtain ⟨k, hk, hk'⟩ := hp.short c
    exact ⟨k, by simp only [hk, PRes.map_incomplete], hk'⟩
  · obtain ⟨v, hv, pv⟩ := hp.long c
    exact ⟨f v, by simp only [hv, PRes.map_ok], hf v pv⟩

theorem Takes.opt {α : Type} {n : Nat} {p : Bytes → PRes α} {P : α → Prop} (hp : Takes n p P)
    (b : Bool) :
    Takes (if b then n else 0) (fun i => if b then (p i).map some else .ok none i)
      (fun o => o.isSome = b ∧ ∀ x, o = some x → P x) := by
  cases b with
  | false => exact Needs.zero fun i => ⟨none, rfl, rfl, fun x hx => by cases hx⟩
  | true => exact hp.map some fun v pv => ⟨rfl, fun x hx => by cases hx; exact pv⟩

theorem zts_takes (n : Nat) :
    Takes n (zts n) fun v => noNul v = true ∧ Utf8.valid v = true ∧ v.length ≤ n :=
  ⟨fun c => zts_short_some n _ c, fun c => ⟨_, zts_ok n _ c, zts_ok_value (zts_ok n _ c)⟩⟩

theorem uintN_takes (e : Endian) (k : Nat) : Takes k (uintN e k) fun v => v < 256 ^ k := by
  refine ⟨fun {i} c => ?_, fun {i} c => ?_⟩ <;> unfold uintN needed
  · rw [if_pos c, if_neg (Nat.sub_ne_zero_of_lt c)]
    exact ⟨_, rfl, Nat.sub_pos_of_lt c, Nat.le_refl _⟩
  · rw [if_neg (Nat.not_lt.mpr c)]
    refine ⟨_, rfl, ?_⟩
    have := Endian.value_lt e (i.take k)
    rwa [List.length_take, Nat.min_eq_left c] at this

theorem bitsN_takes (e : Endian) (k : Nat) : Takes k (bitsN e k) fun _ => True :=
  (uintN_takes e k).map _ fun _ _ => trivial

theorem take_takes (n : Nat) : Takes n (take n) fun v => v.length = n := by
  refine ⟨fun c => ?_, fun c => ?_⟩
  · rw [take_of_lt c]
    exact ⟨_, rfl, Nat.sub_pos_of_lt c, Nat.le_refl _⟩
  · rw [take_of_le c]
    exact ⟨_, rfl, List.length_take_of_le c⟩

theorem beU8_takes : Takes 1 beU8 fun _ => True := by
  refine ⟨fun {i} c => ?_, fun {i} c => ?_⟩ <;> cases i
  · exact ⟨1, rfl, Nat.le_refl _, Nat.le_refl _⟩
  · exact absurd c (by simp)
  · exact absurd c (by decide)
  · exact ⟨_, rfl, trivial⟩

end Dlt
