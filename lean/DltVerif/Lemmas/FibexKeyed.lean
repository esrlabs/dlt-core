/-
  C11: what the two maps of a loaded model return - by frame id, and by (context id,
  application id, frame id): the first frame in document order that carries the key.
-/
import DltVerif.Lemmas.FibexBuild

namespace Dlt.Fibex
open Dlt.Fibex.Spec

/-- first entry with the key -/
def lookupK {κ α : Type} [DecidableEq κ] (m : List (κ × α)) (k : κ) : Option α :=
  (m.find? (·.1 == k)).map (·.2)

theorem lookupK_cons {κ α : Type} [DecidableEq κ] (e : κ × α) (m : List (κ × α)) (k : κ) :
    lookupK (e :: m) k = if e.1 = k then some e.2 else lookupK m k := assoc_cons e m k

theorem lookupK_firstPerKey {κ α : Type} [DecidableEq κ] (l acc : List (κ × α)) (k : κ) :
    lookupK (firstPerKey l acc) k = (lookupK acc k).or (lookupK l k) := assoc_firstPerKey l acc k

theorem frameMeta_ids (es : List Elem) (f : FrameDoc) (m : FrameMetadata)
    (h : frameMeta es f = some m) :
    m.contextId = f.ext.bind (·.contextId) ∧ m.applicationId = f.ext.bind (·.applicationId) := by
  unfold frameMeta at h
  simp only at h
  split at h
  · cases h; exact ⟨rfl, rfl⟩
  · cases h

/-- does the frame carry this key? -/
def hasKey (key : FrameKey) (f : FrameDoc) : Bool :=
  decide (f.id = key.frameId) && decide (f.ext.bind (·.contextId) = some key.contextId)
    && decide (f.ext.bind (·.applicationId) = some key.appId)

theorem hasKey_id (key : FrameKey) (f : FrameDoc) (h : hasKey key f = true) : f.id = key.frameId := by
  unfold hasKey at h
  simp only [Bool.and_eq_true, decide_eq_true_eq] at h
  exact h.1.1

theorem model_lookup {files : List FileDoc} {md : FibexMetadata} (h : Spec.model files = some md) :
    (∀ id, lookupKV md.frameMap id
      = ((framesOf files.flatten).find? (·.id == id)).bind (frameMeta files.flatten)) ∧
    ∀ key, lookupK md.frameMapWithKey key
      = ((framesOf files.flatten).find? (hasKey key)).bind (frameMeta files.flatten) := by
  unfold Spec.model at h
  simp only at h
  split at h
  · rename_i hall
    cases h
    have hs : ∀ (p : FrameDoc → Bool), ∀ f ∈ framesOf files.flatten, p f = true →
        (frameMeta files.flatten f).isSome = true := fun _ f hf _ => List.all_eq_true.mp hall f hf
    refine ⟨fun id => ?_, fun key => ?_⟩
    · simp only
      rw [lookupKV_firstPerKey, lookupKV_nil, Option.none_or]
      refine assoc_filterMap _ _ _ _ _ (fun f _ => ?_) (hs _)
      cases frameMeta files.flatten f <;> simp
    · simp only
      rw [lookupK_firstPerKey, List.filterMap_filterMap]
      refine (Option.none_or ..).trans (assoc_filterMap _ _ _ _ _ (fun f _ => ?_) (hs _))
      cases hm : frameMeta files.flatten f with
      | none => simp
      | some m =>
        obtain ⟨hc, ha⟩ := frameMeta_ids _ f m hm
        rcases key with ⟨kc, ka, kf⟩
        rcases m with ⟨sn, pdus, app, ctx, mt, mi⟩
        simp only [Option.map_some, Option.bind_some, hasKey, ← hc, ← ha]
        -- `keyOf` enters `f` when both ids are there, under the key made of them and `f.id`: that is `key` exactly
        -- when `hasKey key f`
        rcases ctx with _ | c <;> rcases app with _ | a <;> simp [and_comm, and_left_comm]
  · cases h

end Dlt.Fibex
