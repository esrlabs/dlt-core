/-
  Closed form of `zts` (`dlt_zero_terminated_string_intern`).
-/
import DltVerif.Model.Nom

namespace Dlt

theorem firstIdx_lt (p : BitVec 8 → Bool) (s : Bytes) (i : Nat) (h : firstIdx p s = some i) :
    i < s.length := by
  induction s generalizing i with
  | nil => cases h
  | cons b t ih =>
    simp only [firstIdx] at h
    split at h
    · cases h
      exact Nat.zero_lt_succ _
    · obtain ⟨j, hj, rfl⟩ := Option.map_eq_some_iff.1 h
      exact Nat.succ_lt_succ (ih j hj)

theorem takeWhile_not_eq_take_firstIdx (p : BitVec 8 → Bool) (s : Bytes) :
    s.takeWhile (fun b => !p b) = s.take ((firstIdx p s).getD s.length) := by
  induction s with
  | nil => simp [firstIdx]
  | cons b t ih =>
    simp only [firstIdx, List.takeWhile_cons]
    by_cases hp : p b = true
    · simp [hp]
    · simp only [hp, Bool.false_eq_true, if_false, Bool.not_false, if_true]
      cases hf : firstIdx p t <;> simp [hf] at ih ⊢ <;> exact ih

theorem take_takeWhile_notNul (n : Nat) (s : Bytes) :
    (s.take n).takeWhile (fun b => !isNul b)
      = s.take (min n ((firstIdx isNul s).getD s.length)) := by
  rw [← List.take_takeWhile, takeWhile_not_eq_take_firstIdx, List.take_take]

/-- short of input the hint is `take`'s shortfall once `take_while_m_n` has seen a NUL, and that
    combinator's `Needed(1)` otherwise -/
theorem zts_eq (n : Nat) (s : Bytes) :
    zts n s =
      if n ≤ s.length then
        .ok (Utf8.validPrefix (s.take (min n ((firstIdx isNul s).getD s.length)))) (s.drop n)
      else .incomplete (some (if (firstIdx isNul s).isSome then n - s.length else 1)) := by
  unfold zts takeWhileNotNul
  cases hf : firstIdx isNul s with
  | none =>
    -- no NUL: the content is the first `n` bytes, and short of them `take_while_m_n` asks for one more
    by_cases h : n ≤ s.length
    · simp [h, take, Nat.min_eq_left h]
    · simp [h, needed]
  | some idx =>
    have hlt := firstIdx_lt _ _ _ hf
    simp only [Option.getD_some, Option.isSome_some, if_true, PRes.andThen_ok, List.length_take]
    by_cases hi : idx ≤ n
    · -- a NUL inside the field: the content ends there, and `take` has the other `n - idx` bytes of the field to skip
      have h1 : min idx s.length = idx := Nat.min_eq_left (Nat.le_of_lt hlt)
      have h2 : ¬ n < idx := Nat.not_lt.2 hi
      simp only [hi, if_true, h1, h2, if_false, take, List.length_drop, Nat.min_eq_right hi]
      by_cases h : n ≤ s.length
      · have h3 : ¬ s.length - idx < n - idx := Nat.not_lt.2 (Nat.sub_le_sub_right h idx)
        simp only [h, h3, if_true, if_false, PRes.andThen_ok, List.drop_drop]
        rw [Nat.add_sub_cancel' hi]
      · have h3 : s.length - idx < n - idx :=
          Nat.sub_lt_sub_right (Nat.le_of_lt hlt) (Nat.not_le.1 h)
        have h5 : n - idx - (s.length - idx) ≠ 0 := Nat.sub_ne_zero_of_lt h3
        simp only [h, h3, if_true, if_false, PRes.andThen_incomplete, needed, h5]
        rw [Nat.sub_sub_sub_cancel_right (Nat.le_of_lt hlt)]
    · -- the first NUL lies behind the field: all `n` bytes are content, `take 0` follows
      have hn := Nat.le_of_lt (Nat.not_le.1 hi)
      have h : n ≤ s.length := Nat.le_trans hn (Nat.le_of_lt hlt)
      have h0 : min n idx = n := Nat.min_eq_left hn
      have h1 : min n s.length = n := Nat.min_eq_left h
      simp [hi, h, h0, h1, take]

theorem zts_ok (n : Nat) (s : Bytes) (h : n ≤ s.length) :
    zts n s = .ok (Utf8.validPrefix ((s.take n).takeWhile (fun b => !isNul b))) (s.drop n) := by
  rw [zts_eq, if_pos h, take_takeWhile_notNul]

theorem zts_short_some (n : Nat) (s : Bytes) (h : s.length < n) :
    ∃ k, zts n s = .incomplete (some k) ∧ 1 ≤ k ∧ k ≤ n - s.length := by
  refine ⟨_, by rw [zts_eq, if_neg (by omega)], ?_⟩
  split <;> omega

end Dlt
