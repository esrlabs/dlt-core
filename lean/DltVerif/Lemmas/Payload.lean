/-
  The dispatch of `dlt_payload` and of `payloadConsistent` on one vocabulary: the verbose flag and
  the tests `isNetworkTrace` / `isControl` of the announced message type.
-/
import DltVerif.Model.Decode
import DltVerif.Spec.WF

namespace Dlt

/-- the raw data of a raw-data argument (what `dlt_payload` keeps of a network trace) -/
def rawOf (a : Argument) : Option Bytes :=
  match a.value with | .raw b => some b | _ => none

theorem dltPayload_verbose (e : Endian) (i : Bytes) (pl argc : Nat) (mt : Option MessageType) :
    dltPayload e i true pl argc mt =
      match count (dltArgument e) argc i with
      | .ok args rest =>
        .ok (if mt.any (·.isNetworkTrace) then .networkTrace (args.filterMap rawOf) else .verbose args) rest
      | r => addContext (r.map fun _ => PayloadContent.verbose []) := by
  unfold dltPayload
  rw [if_pos rfl]
  cases count (dltArgument e) argc i with
  | ok args rest =>
    cases mt with
    | none => rfl
    | some t => cases t <;> rfl
  | _ => rfl

theorem dltPayload_nonVerbose (e : Endian) (i : Bytes) (pl argc : Nat) (mt : Option MessageType) :
    dltPayload e i false pl argc mt =
      if mt.any (·.isControl) then
        if pl < 1 then .failure
        else (beU8Complete i).andThen fun sid i => (take (pl - 1) i).andThen fun payload rest =>
          .ok (.controlMsg (ControlType.fromValue sid) payload) rest
      else
        if pl < 4 then .failure
        else (bitsN e 4 i).andThen fun id i => (take (pl - 4) i).andThen fun payload rest =>
          .ok (.nonVerbose id payload) rest := by
  unfold dltPayload
  rw [if_neg Bool.false_ne_true]
  cases mt with
  | none => rfl
  | some t => cases t <;> rfl

/-- `payloadConsistent` by payload kind, in terms of what the extended header announces to
    `dlt_payload`: verbose flag, argument count, message type -/
theorem payloadConsistent_iff (p : PayloadContent) (eh : Option ExtendedHeader) :
    payloadConsistent p eh = true ↔
      match p with
      | .verbose args => eh.any (·.verbose) = true ∧ eh.elim 0 (·.argumentCount.toNat) = args.length
          ∧ (eh.map (·.messageType)).any (·.isNetworkTrace) = false ∧ args.all Argument.wf = true
      | .networkTrace slices => eh.any (·.verbose) = true
          ∧ eh.elim 0 (·.argumentCount.toNat) = slices.length
          ∧ (eh.map (·.messageType)).any (·.isNetworkTrace) = true
          ∧ slices.all (fun s => decide (s.length ≤ 65535)) = true
      | .controlMsg t _ => eh.any (·.verbose) = false
          ∧ (eh.map (·.messageType)).any (·.isControl) = true ∧ t.canonicalValue = true
      | .nonVerbose _ _ => eh.any (·.verbose) = false
          ∧ (eh.map (·.messageType)).any (·.isControl) = false := by
  cases p <;> cases eh <;> simp [payloadConsistent, and_assoc]

end Dlt
