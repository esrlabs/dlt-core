/-
  The type-info word: the crate's decoder (`TryFrom<u32> for TypeInfo`, bit operations) equals
  the Spec's decoder by weights (Spec/TypeInfo.lean `tiDecode`) on all 2^32 words, accepts exactly
  the words the Spec calls supported, the crate's writer assembles the word by weights, and
  decoding and re-encoding are inverse up to the bits the format does not use (C14, C02).

  Everything is brought to the fields of the word as numbers (TYLE = n % 16, kind bits =
  n / 16 % 128, VARI, FIXP, TRAI single bits, SCOD = n / 32768 % 8): both decoders compare these
  fields, and the word of a description is the sum of its fields.
-/
import DltVerif.Spec.TypeInfo
import DltVerif.Spec.WF

namespace Dlt
open Dlt.Spec


theorem toNat_low (w m : BitVec 32) (k : Nat) (hm : m.toNat = 2 ^ k - 1) :
    (w &&& m).toNat = w.toNat % 2 ^ k := by
  rw [BitVec.toNat_and, hm, Nat.and_two_pow_sub_one_eq_mod]

theorem toNat_field (w m : BitVec 32) (s k : Nat) (hm : m.toNat = 2 ^ k - 1) :
    ((w >>> s) &&& m).toNat = w.toNat / 2 ^ s % 2 ^ k := by
  rw [toNat_low _ m k hm, BitVec.toNat_ushiftRight, Nat.shiftRight_eq_div_pow]

theorem toNat_tyle (w : BitVec 32) : (w &&& 0b1111#32).toNat = w.toNat % 16 := toNat_low w _ 4 rfl

theorem toNat_kindBits (w : BitVec 32) : ((w >>> 4) &&& 0b1111111#32).toNat = w.toNat / 16 % 128 :=
  toNat_field w _ 4 7 rfl

theorem toNat_scod (w : BitVec 32) : ((w >>> 15) &&& 0b111#32).toNat = w.toNat / 32768 % 8 :=
  toNat_field w _ 15 3 rfl

theorem flag_eq (w : BitVec 32) (i : Nat) (hi : i < 32) :
    (w &&& BitVec.twoPow 32 i != 0#32) = tiBit w.toNat i := by
  unfold tiBit
  rw [← Nat.testBit_eq_decide_div_mod_eq, ← BitVec.getLsbD, BitVec.and_twoPow]
  cases w.getLsbD i
  · rfl
  · have := Nat.pow_lt_pow_right (a := 2) Nat.one_lt_two hi
    have := Nat.two_pow_pos i
    simp [← BitVec.toNat_inj]
    omega

theorem tiBit_val (n i : Nat) : n / 2 ^ i % 2 = (tiBit n i).toNat := by
  unfold tiBit
  rcases Nat.mod_two_eq_zero_or_one (n / 2 ^ i) with h | h <;> simp [h]

theorem tiBit_field (n s k i : Nat) (hs : s ≤ i) (hk : i < s + k) :
    tiBit n i = tiBit (n / 2 ^ s % 2 ^ k) (i - s) := by
  unfold tiBit
  rw [← Nat.testBit_eq_decide_div_mod_eq, ← Nat.testBit_eq_decide_div_mod_eq, Nat.testBit_mod_two_pow,
    Nat.testBit_div_two_pow, decide_eq_true (Nat.sub_lt_left_of_lt_add hs hk), Bool.true_and,
    Nat.sub_add_cancel hs]


def lenN : Nat → Option TypeLength
  | 1 => some .b8 | 2 => some .b16 | 3 => some .b32 | 4 => some .b64 | 5 => some .b128 | _ => none

def fwN : Nat → Option FloatWidth
  | 3 => some .w32 | 4 => some .w64 | _ => none

/-- the kind of a word from TYLE, the field of the kind bits, and FIXP -/
def kindN (n : Nat) : Option TypeInfoKind :=
  match n / 16 % 128 with
  | 1 => some .bool
  | 2 => if tiBit n 12 then (fwN (n % 16)).map .signedFixedPoint else (lenN (n % 16)).map .signed
  | 4 => if tiBit n 12 then (fwN (n % 16)).map .unsignedFixedPoint else (lenN (n % 16)).map .unsigned
  | 8 => (fwN (n % 16)).map .float
  | 32 => some .stringType
  | 64 => some .raw
  | _ => none

theorem lenN_eq (t : Nat) : lenN t = if t = 1 then some .b8 else if t = 2 then some .b16
    else if t = 3 then some .b32 else if t = 4 then some .b64 else if t = 5 then some .b128 else none := by
  unfold lenN
  split <;> simp_all

theorem fwN_eq (t : Nat) : fwN t = if t = 3 then some .w32 else if t = 4 then some .w64 else none := by
  unfold fwN
  split <;> simp_all

/-- `kindN` as the chain of comparisons the crate writes -/
theorem kindN_eq (n : Nat) : kindN n =
    if n / 16 % 128 = 1 then some .bool
    else if n / 16 % 128 = 2 then
      if tiBit n 12 then (fwN (n % 16)).map .signedFixedPoint else (lenN (n % 16)).map .signed
    else if n / 16 % 128 = 4 then
      if tiBit n 12 then (fwN (n % 16)).map .unsignedFixedPoint else (lenN (n % 16)).map .unsigned
    else if n / 16 % 128 = 8 then (fwN (n % 16)).map .float
    else if n / 16 % 128 = 32 then some .stringType
    else if n / 16 % 128 = 64 then some .raw
    else none := by
  unfold kindN
  split <;> simp_all

theorem kindBits_eq (n : Nat) :
    [4, 5, 6, 7, 8, 9, 10].filter (tiBit n)
      = [4, 5, 6, 7, 8, 9, 10].filter fun i => tiBit (n / 16 % 128) (i - 4) :=
  List.filter_congr fun i hi =>
    have h : 4 ≤ i ∧ i < 4 + 7 := by simp at hi; omega
    tiBit_field n 4 7 i h.1 h.2

/-- exactly one kind bit is set exactly when the field is that power of two -/
theorem kindBits_table : ∀ kb : Fin 128,
    let l := [4, 5, 6, 7, 8, 9, 10].filter fun i => tiBit kb.val (i - 4)
    (l = [4] ↔ kb.val = 1) ∧ (l = [5] ↔ kb.val = 2) ∧ (l = [6] ↔ kb.val = 4) ∧ (l = [7] ↔ kb.val = 8)
      ∧ (l = [9] ↔ kb.val = 32) ∧ (l = [10] ↔ kb.val = 64) := by
  decide +kernel

/-- a choice by the one kind bit that is set is the choice by the value of the field -/
theorem kindBits_match {α : Type} (n : Nat) (a b c d e f z : α) :
    (match [4, 5, 6, 7, 8, 9, 10].filter (tiBit n) with
      | [4] => a | [5] => b | [6] => c | [7] => d | [9] => e | [10] => f | _ => z)
    = (match n / 16 % 128 with
      | 1 => a | 2 => b | 4 => c | 8 => d | 32 => e | 64 => f | _ => z) := by
  obtain ⟨h4, h5, h6, h7, h9, h10⟩ := kindBits_table ⟨n / 16 % 128, Nat.mod_lt _ (by decide)⟩
  simp only [← kindBits_eq] at h4 h5 h6 h7 h9 h10
  split
  · rw [h4.mp ‹_›]; rfl
  · rw [h5.mp ‹_›]; rfl
  · rw [h6.mp ‹_›]; rfl
  · rw [h7.mp ‹_›]; rfl
  · rw [h9.mp ‹_›]; rfl
  · rw [h10.mp ‹_›]; rfl
  · split
    · exact absurd (h4.mpr ‹_›) ‹_›
    · exact absurd (h5.mpr ‹_›) ‹_›
    · exact absurd (h6.mpr ‹_›) ‹_›
    · exact absurd (h7.mpr ‹_›) ‹_›
    · exact absurd (h9.mpr ‹_›) ‹_›
    · exact absurd (h10.mpr ‹_›) ‹_›
    · rfl

/-- the Spec's kind (exactly one kind bit set) is the kind by fields: the two are the same choice
    among the same alternatives -/
theorem tiKind_eq_kindN (n : Nat) : tiKind n = kindN n := kindBits_match n _ _ _ _ _ _ _


/-- the crate's coding, its comparisons already read as comparisons of the field SCOD -/
theorem coding_eq (w : BitVec 32) :
    (if w.toNat / 32768 % 8 = 0 then StringCoding.ascii
      else if w.toNat / 32768 % 8 = 1 then .utf8
      else .reserved (BitVec.truncate 8 (w >>> 15 &&& 0b111#32))) = tiCoding w.toNat := by
  have htr (c : BitVec 32) : BitVec.truncate 8 c = BitVec.ofNat 8 c.toNat :=
    BitVec.eq_of_toNat_eq (by simp [BitVec.truncate])
  rw [htr, toNat_scod, tiCoding]
  generalize w.toNat / 32768 % 8 = c
  rcases c with _ | _ | c
  · rfl
  · rfl
  · simp

/-- all 2^32 words: the crate's decoder is the decoder by weights. Its comparisons of masked and
    shifted words are comparisons of the fields, which gives the kind by fields, `kindN`. -/
theorem ofU32_eq_tiDecode (w : BitVec 32) : TypeInfo.ofU32 w = tiDecode w.toNat := by
  have hf := flag_eq w 12 (by omega)
  have hv := flag_eq w 11 (by omega)
  have ht := flag_eq w 13 (by omega)
  have e0 : TYPE_INFO_FIXED_POINT_FLAG = BitVec.twoPow 32 12 := by decide
  have e1 : TYPE_INFO_VARIABLE_INFO = BitVec.twoPow 32 11 := by decide
  have e2 : TYPE_INFO_TRACE_INFO_FLAG = BitVec.twoPow 32 13 := by decide
  unfold TypeInfo.ofU32 typeLen typeLenFloat
  simp only [e0, e1, e2, hf, hv, ht, ← BitVec.toNat_inj, toNat_kindBits, toNat_tyle, toNat_scod,
    BitVec.toNat_ofNat, Nat.reducePow, Nat.reduceMod, ← lenN_eq, ← fwN_eq, ← kindN_eq]
  rw [coding_eq, tiDecode, tiKind_eq_kindN]
  cases kindN w.toNat <;> rfl

/-- supported = the kind is defined: the two definitions branch alike -/
theorem tiSupported_eq (n : Nat) : tiSupported n = (tiKind n).isSome := by
  -- TYLE is a width the Spec supports exactly where the width decoder of `tiKind` has an answer
  have hl (t : Nat) : (decide (1 ≤ t) && decide (t ≤ 5)) = (lenN t).isSome := by
    unfold lenN
    split <;> simp_all <;> omega
  have hw (t : Nat) : (t == 3 || t == 4) = (fwN t).isSome := by
    unfold fwN
    split <;> simp_all
  unfold tiSupported tiKind
  simp only []
  split
  · rfl
  · cases tiBit n 12 <;> simp only [Bool.false_eq_true, if_false, if_true, Option.isSome_map]
    · exact hl _
    · exact hw _
  · cases tiBit n 12 <;> simp only [Bool.false_eq_true, if_false, if_true, Option.isSome_map]
    · exact hl _
    · exact hw _
  · rw [Option.isSome_map]
    exact hw _
  · rfl
  · rfl
  · rfl

theorem ofU32_isSome (w : BitVec 32) : (TypeInfo.ofU32 w).isSome = tiSupported w.toNat := by
  rw [ofU32_eq_tiDecode, tiSupported_eq]
  exact Option.isSome_map


/-- the kind has a width field -/
def TypeInfoKind.hasWidth : TypeInfoKind → Bool
  | .bool => false | .stringType => false | .raw => false | _ => true

/-- the kind is an integer (FIXP is meaningful) -/
def TypeInfoKind.isInteger : TypeInfoKind → Bool
  | .signed _ => true | .unsigned _ => true | .signedFixedPoint _ => true | .unsignedFixedPoint _ => true
  | _ => false

/-- TYLE of a kind (0 without a width) -/
def TypeInfoKind.tyle : TypeInfoKind → Nat
  | .signed l | .unsigned l => (match l with | .b8 => 1 | .b16 => 2 | .b32 => 3 | .b64 => 4 | .b128 => 5)
  | .signedFixedPoint w | .unsignedFixedPoint w | .float w => (match w with | .w32 => 3 | .w64 => 4)
  | _ => 0

/-- the field of the kind bits 4..10 -/
def TypeInfoKind.bits : TypeInfoKind → Nat
  | .bool => 1 | .signed _ | .signedFixedPoint _ => 2 | .unsigned _ | .unsignedFixedPoint _ => 4
  | .float _ => 8 | .stringType => 32 | .raw => 64

def TypeInfoKind.fixp : TypeInfoKind → Nat
  | .signedFixedPoint _ | .unsignedFixedPoint _ => 1 | _ => 0

def StringCoding.code : StringCoding → Nat
  | .ascii => 0 | .utf8 => 1 | .reserved v => v.toNat % 8

theorem kind_bounds (k : TypeInfoKind) :
    k.tyle < 16 ∧ k.bits < 128 ∧ k.fixp < 2
      ∧ (k.hasWidth = false → k.tyle = 0) ∧ (k.isInteger = false → k.fixp = 0) := by
  cases k <;> (try (rename_i l; cases l)) <;> decide

theorem StringCoding.code_lt (c : StringCoding) : c.code < 8 := by
  cases c with
  | reserved v => exact Nat.mod_lt _ (by decide)
  | _ => decide

theorem tiWord_eq_fields (t : TypeInfo) :
    tiWord t = t.kind.tyle + 16 * t.kind.bits + 4096 * t.kind.fixp
      + (if t.hasVariableInfo then 2048 else 0) + (if t.hasTraceInfo then 8192 else 0)
      + 32768 * t.coding.code := by
  unfold tiWord
  cases t.kind <;> (try (rename_i l; cases l)) <;> rfl

theorem ite_weight (b : Bool) (w : Nat) : (if b then w else 0) = w * b.toNat := by
  cases b <;> simp

/-- the layout: every field of the word of a description, and nothing in STRU and the reserved bits -/
theorem tiWord_fields (t : TypeInfo) :
    tiWord t % 16 = t.kind.tyle ∧ tiWord t / 16 % 128 = t.kind.bits
      ∧ tiWord t / 2048 % 2 = t.hasVariableInfo.toNat ∧ tiWord t / 4096 % 2 = t.kind.fixp
      ∧ tiWord t / 8192 % 2 = t.hasTraceInfo.toNat ∧ tiWord t / 16384 % 2 = 0
      ∧ tiWord t / 32768 % 8 = t.coding.code ∧ tiWord t / 262144 = 0 := by
  obtain ⟨h1, h2, h3, _⟩ := kind_bounds t.kind
  have hv := t.hasVariableInfo.toNat_lt
  have ht := t.hasTraceInfo.toNat_lt
  have hc := t.coding.code_lt
  rw [tiWord_eq_fields, ite_weight _ 2048, ite_weight _ 8192]
  generalize t.kind.tyle = ty, t.kind.bits = kb, t.kind.fixp = x, t.coding.code = c at *
  generalize t.hasVariableInfo.toNat = v, t.hasTraceInfo.toNat = b at *
  omega


/-- OR-ing a field above everything that is set so far adds it -/
theorem toNat_or_shiftLeft (a b : BitVec 32) (i : Nat) (ha : a.toNat < 2 ^ i)
    (hb : b.toNat * 2 ^ i < 2 ^ 32) : (a ||| (b <<< i)).toNat = a.toNat + 2 ^ i * b.toNat := by
  rw [BitVec.toNat_or, BitVec.toNat_shiftLeft, Nat.shiftLeft_eq, Nat.mod_eq_of_lt hb, Nat.mul_comm,
    Nat.or_comm, ← Nat.two_pow_add_eq_or_of_lt ha, Nat.add_comm]

/-- the writer's word without the coding: 19 kinds x VARI x TRAI -/
theorem toU32_ascii (k : TypeInfoKind) (vari trai : Bool) :
    (TypeInfo.toU32 ⟨k, .ascii, vari, trai⟩).toNat
        = k.tyle + 16 * k.bits + 4096 * k.fixp + (if vari then 2048 else 0) + (if trai then 8192 else 0)
      ∧ (TypeInfo.toU32 ⟨k, .ascii, vari, trai⟩).toNat < 2 ^ 15 := by
  cases vari <;> cases trai <;> cases k <;> (try (rename_i l; cases l)) <;> decide

/-- the coding is OR-ed last, above the rest -/
theorem toU32_coding (k : TypeInfoKind) (c : StringCoding) (vari trai : Bool) :
    ∃ cb : BitVec 32, cb.toNat = c.code ∧
      TypeInfo.toU32 ⟨k, c, vari, trai⟩ = TypeInfo.toU32 ⟨k, .ascii, vari, trai⟩ ||| (cb <<< 15) := by
  refine ⟨match c with | .ascii => 0#32 | .utf8 => 1#32 | .reserved v => BitVec.zeroExtend 32 (0b111#8 &&& v),
    ?_, ?_⟩
  · cases c with
    | reserved v =>
      have h7 : (0b111#8 &&& v).toNat = v.toNat % 8 := by
        rw [BitVec.toNat_and, Nat.and_comm]
        exact Nat.and_two_pow_sub_one_eq_mod v.toNat 3
      simp only [BitVec.toNat_setWidth, h7]
      exact Nat.mod_eq_of_lt (by omega)
    | _ => rfl
  · cases c <;> simp only [TypeInfo.toU32, TypeInfo.isFixedPoint, BitVec.zero_shiftLeft, BitVec.or_zero]

/-- `TypeInfo::as_bytes` assembles the word by weights -/
theorem tiWord_eq (t : TypeInfo) : tiWord t = t.toU32.toNat := by
  rcases t with ⟨k, c, vari, trai⟩
  obtain ⟨cb, hcb, he⟩ := toU32_coding k c vari trai
  obtain ⟨ha, hlt⟩ := toU32_ascii k vari trai
  have hc := c.code_lt
  rw [he, toNat_or_shiftLeft _ _ 15 hlt (by omega), ha, hcb, tiWord_eq_fields]


theorem kindN_of_fields (n : Nat) (k : TypeInfoKind) (h1 : n / 16 % 128 = k.bits) (h2 : n % 16 = k.tyle)
    (h3 : n / 4096 % 2 = k.fixp) : kindN n = some k := by
  unfold kindN tiBit
  rw [h1, h2, show (2 : Nat) ^ 12 = 4096 from rfl, h3]
  cases k <;> (try (rename_i l; cases l)) <;> rfl

theorem kind_fields (n : Nat) (k : TypeInfoKind) (h : tiKind n = some k) :
    k.bits = n / 16 % 128 ∧ (k.hasWidth = true → k.tyle = n % 16)
      ∧ (k.isInteger = true → k.fixp = n / 4096 % 2) := by
  rw [tiKind_eq_kindN] at h
  rw [tiBit_val n 12]
  unfold kindN lenN fwN at h
  -- in every branch that has an answer the patterns of the `match`es are the values of the fields, and `h` names `k`
  repeat' split at h
  all_goals simp at h
  all_goals subst h
  all_goals simp [TypeInfoKind.bits, TypeInfoKind.tyle, TypeInfoKind.fixp, TypeInfoKind.hasWidth,
    TypeInfoKind.isInteger, *]

theorem tiCoding_code (n : Nat) : (tiCoding n).code = n / 32768 % 8 ∧ (tiCoding n).canonical = true := by
  unfold tiCoding
  have hlt : n / 32768 % 8 < 8 := Nat.mod_lt _ (by decide)
  generalize n / 32768 % 8 = c at hlt
  rcases c with _ | _ | c
  · exact ⟨rfl, rfl⟩
  · exact ⟨rfl, rfl⟩
  · simp only [StringCoding.code, StringCoding.canonical, BitVec.toNat_ofNat, decide_eq_true_eq,
      Nat.reducePow]
    omega

theorem tiCoding_of_code (n : Nat) (c : StringCoding) (hc : c.canonical = true) (h : n / 32768 % 8 = c.code) :
    tiCoding n = c := by
  unfold tiCoding
  rw [h]
  clear h
  cases c with
  | ascii => rfl
  | utf8 => rfl
  | reserved v =>
    simp only [StringCoding.canonical, decide_eq_true_eq] at hc
    have e : v.toNat % 8 = v.toNat := Nat.mod_eq_of_lt (Nat.lt_succ_of_le hc.2)
    simp only [StringCoding.code, e]
    split
    · exfalso; omega
    · exfalso; omega
    · rw [BitVec.ofNat_toNat, BitVec.setWidth_eq]

theorem tiBit_of_val (n i : Nat) (b : Bool) (h : n / 2 ^ i % 2 = b.toNat) : tiBit n i = b := by
  unfold tiBit
  cases b <;> simp [h]


theorem tiDecode_tiWord (t : TypeInfo) (hc : t.coding.canonical = true) : tiDecode (tiWord t) = some t := by
  obtain ⟨f1, f2, f3, f4, f5, _, f7, _⟩ := tiWord_fields t
  rw [tiDecode, tiKind_eq_kindN, kindN_of_fields _ _ f2 f1 f4, tiCoding_of_code _ _ hc f7,
    tiBit_of_val _ 11 _ f3, tiBit_of_val _ 13 _ f5]
  rfl

theorem ti_reencode (d : TypeInfo) (hc : d.coding.canonical = true) :
    TypeInfo.ofU32 d.toU32 = some d := by
  rw [ofU32_eq_tiDecode, ← tiWord_eq, tiDecode_tiWord d hc]

theorem ti_decode_canonical (w : BitVec 32) (d : TypeInfo) (h : TypeInfo.ofU32 w = some d) :
    d.coding.canonical = true := by
  rw [ofU32_eq_tiDecode, tiDecode] at h
  obtain ⟨k, _, rfl⟩ := Option.map_eq_some_iff.mp h
  exact (tiCoding_code w.toNat).2

end Dlt
