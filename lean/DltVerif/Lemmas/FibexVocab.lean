/-
  C11: the type vocabulary of the model (`typeInfoForSignalRef`, the chain of comparisons of
  `type_info_for_signal_ref`) is the table written out in Spec/Fibex.lean.

  A chain `if k = n₁ then v₁ else if k = n₂ then v₂ else .. else d` is a lookup in the table of
  its own entries with default `d`; `lookupName_step` reads the entries off the chain one by one
  and what is left to show is that this table is the Spec's - a comparison of two literal tables.
-/
import DltVerif.Lemmas.FibexBuild

namespace Dlt.Fibex
open Dlt.Fibex.Spec

theorem lookupName_step {α : Type} {k n : Bytes} {v X d : α} {t : List (Bytes × α)}
    (h : X = (lookupName k t).getD d) :
    (if k = n then v else X) = (lookupName k ((n, v) :: t)).getD d := by
  rw [lookupName, h]
  split <;> rfl

/-- two names for one value (`A_INT8` / `A_SINT8`, `S_RAWD` / `S_RAW`) -/
theorem lookupName_step2 {α : Type} {k n n' : Bytes} {v X d : α} {t : List (Bytes × α)}
    (h : X = (lookupName k t).getD d) :
    (if k = n ∨ k = n' then v else X) = (lookupName k ((n, v) :: (n', v) :: t)).getD d := by
  rw [← lookupName_step (lookupName_step h)]
  by_cases h1 : k = n <;> by_cases h2 : k = n' <;> simp [h1, h2]

theorem lookupName_end {α : Type} (k : Bytes) (d : α) : d = (lookupName k []).getD d := rfl

theorem lookupName_via {α : Type} {k : Bytes} {X d : α} {T tbl : List (Bytes × α)}
    (h1 : X = (lookupName k tbl).getD d) (h2 : tbl = T) : X = (lookupName k T).getD d := h2 ▸ h1

theorem lookupName_map_some {α : Type} (k : Bytes) (T : List (Bytes × α)) :
    (lookupName k (T.map fun e => (e.1, some e.2))).getD none = lookupName k T := by
  induction T with
  | nil => rfl
  | cons e T ih =>
    rw [List.map_cons, lookupName, lookupName, ← ih]
    split <;> rfl

/-- the model's vocabulary is the Spec's table: a standard name decides, otherwise the base
    data type of the signal's coding is looked up -/
theorem typeInfoForSignalRef_eq_table (ref : Bytes) (s c : List (Bytes × Bytes)) :
    typeInfoForSignalRef ref s c
      = (lookupName ref standardSignals).getD
          (((lookupKV s ref).bind (lookupKV c)).bind fun b => lookupName b baseTypes) := by
  unfold typeInfoForSignalRef
  apply lookupName_via
  · repeat first | apply lookupName_step | apply lookupName_step2
    cases (lookupKV s ref).bind (lookupKV c) with
    | none => exact lookupName_end ref _
    | some base =>
      refine Eq.trans ?_ ((lookupName_end ref _).trans rfl)
      rw [Option.bind_some, ← lookupName_map_some]
      apply lookupName_via
      · repeat first | apply lookupName_step | apply lookupName_step2
        exact lookupName_end base none
      · rfl
  · rfl

end Dlt.Fibex
