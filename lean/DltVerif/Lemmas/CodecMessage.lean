/-
  C02, decoding: the whole-message verdict.  The headers the parser returns are the ones the
  Spec reads by offset (`msgBody_closed`); what is left is the payload, and that the Spec's
  headers of the framed message only look at its own bytes.
-/
import DltVerif.Lemmas.CodecDecode
import DltVerif.Lemmas.FramingStorage
import DltVerif.Lemmas.RoundTripMsg

namespace Dlt
open Dlt.Spec

/-- how `dlt_message_intern` turns the outcome of the payload parser into its own (the `match`
    at the end of `msgFinish`; it appears by unification in the proof of `msgBody_complete`) -/
def wrapPayload (mk : PayloadContent → Message) (rest : Bytes) :
    PRes PayloadContent → PRes ParsedMessage
  | .ok payload _ => .ok (.item (mk payload)) rest
  | .incomplete _ => .error
  | .error => .error
  | .failure => .failure
  | .panic => .panic

/-- the payload parser on the declared slice, wrapped: the Spec's payload or a refusal -/
theorem wrapPayload_spec (mk : PayloadContent → Message) (rest : Bytes) (e : Endian) (vb : Bool)
    (argc : Nat) (mt : Option MessageType) (slice : Bytes) (pl : Nat) (hpl : slice.length = pl) :
    match (decodePayloadWith e vb argc mt slice).map mk with
    | some m => wrapPayload mk rest (dltPayload e slice vb pl argc mt) = .ok (.item m) rest
    | none => wrapPayload mk rest (dltPayload e slice vb pl argc mt) = .error
        ∨ wrapPayload mk rest (dltPayload e slice vb pl argc mt) = .failure := by
  subst hpl
  rw [← payload_refines e vb argc mt slice]
  cases hr : dltPayload e slice vb slice.length argc mt with
  | ok p r => rfl
  | incomplete n => exact Or.inl rfl
  | error => exact Or.inl rfl
  | failure => exact Or.inr rfl
  | panic => exact absurd hr (dltPayload_ne_panic _ _ _ _ _ _)

/-- the message a complete buffer holds behind the storage header `so`, failure classes
    collapsed -/
def bodyOf (so : Option StorageHeader) (bs : Bytes) (d : Nat) : Option Message :=
  (decodePayload (stdHeaderOf bs).endianness (extHeaderOf bs)
      ((bs.drop (Spec.allHeadersLen (bs.headD 0#8))).take (d - Spec.allHeadersLen (bs.headD 0#8)))).map
    fun p => { storageHeader := so, header := stdHeaderOf bs, extendedHeader := extHeaderOf bs,
               payload := p }

/-- with a complete message of `d` bytes in the buffer, the parser (no filter) returns exactly
    the Spec's message and the bytes behind it, or refuses -/
theorem msgBody_complete (so : Option StorageHeader) (bs : Bytes) (d : Nat)
    (hf : Spec.framing bs = .complete d) :
    match bodyOf so bs d with
    | some m => msgBody so bs none = .ok (.item m) (bs.drop d)
    | none => msgBody so bs none = .error ∨ msgBody so bs none = .failure := by
  have hc := msgBody_closed so bs none
  rw [hf] at hc
  obtain ⟨_, he⟩ := hc
  obtain ⟨_, hdl, hal⟩ := framing_complete_le bs d hf
  have hle : d - Spec.allHeadersLen (bs.headD 0#8)
      ≤ (bs.drop (Spec.allHeadersLen (bs.headD 0#8))).length := by
    rw [List.length_drop]; exact Nat.sub_le_sub_right hdl _
  rw [he]
  unfold bodyOf msgFinish
  rw [filteredOut_none, take_of_le hle, List.drop_drop, Nat.add_sub_of_le hal]
  simp only [Bool.false_eq_true, if_false, PRes.andThen_ok]
  -- whatever flag, count and type `msgFinish` reads off the extended header: found by unification
  exact wrapPayload_spec (fun p => ⟨so, stdHeaderOf bs, extHeaderOf bs, p⟩) (bs.drop d) _ _ _ _ _ _
    (List.length_take_of_le hle)

/-! The Spec's headers only look at the bytes of the message. -/

theorem getD_take (bs : Bytes) (d k : Nat) (x : BitVec 8) (h : k < d) :
    (bs.take d).getD k x = bs.getD k x := by
  simp [List.getD, h]

theorem headD_take (bs : Bytes) (d : Nat) (x : BitVec 8) (h : 0 < d) :
    (bs.take d).headD x = bs.headD x := by
  cases bs with
  | nil => simp
  | cons b t =>
    cases d with
    | zero => omega
    | succ d => rfl

theorem at4_take (bs : Bytes) (d o : Nat) (h : o + 4 ≤ d) : at4 (bs.take d) o = at4 bs o := by
  unfold at4
  rw [List.drop_take, List.take_take, Nat.min_eq_left (Nat.le_sub_of_add_le' h)]

theorem stdHeaderOf_take (bs : Bytes) (d : Nat) (h : Spec.stdHeaderLen (bs.headD 0#8) ≤ d) :
    stdHeaderOf (bs.take d) = stdHeaderOf bs := by
  have h4 := stdHeaderLen_ge (bs.headD 0#8)
  unfold stdHeaderOf
  have hh := headD_take bs d 0#8 (by omega)
  simp only [hh, getD_take bs d 1 0#8 (by omega), declaredLen_take bs d (by omega),
    StandardHeader.mk.injEq, true_and, and_true]
  simp only [Spec.stdHeaderLen] at h
  -- an optional field that is present has its own 4 bytes among the summands of `h`
  refine ⟨?_, ?_, ?_⟩
  all_goals
    refine ite_congr rfl (fun hb => ?_) fun _ => rfl
    rw [if_pos hb] at h
    rw [at4_take _ _ _ (by omega)]

theorem extHeaderOf_take (bs : Bytes) (d : Nat) (h : Spec.allHeadersLen (bs.headD 0#8) ≤ d) :
    extHeaderOf (bs.take d) = extHeaderOf bs := by
  have h4 := stdHeaderLen_ge (bs.headD 0#8)
  have hsa := stdHeaderLen_le_all (bs.headD 0#8)
  unfold extHeaderOf
  simp only [headD_take bs d 0#8 (by omega)]
  split
  · rename_i b0
    have hall : Spec.allHeadersLen (bs.headD 0#8) = Spec.stdHeaderLen (bs.headD 0#8) + 10 := by
      unfold Spec.allHeadersLen; rw [if_pos b0]
    rw [getD_take _ _ _ _ (by omega), getD_take _ _ _ _ (by omega), at4_take _ _ _ (by omega),
      at4_take _ _ _ (by omega)]
  · rfl

/-- the Spec's complete-message decoder in terms of the buffer -/
theorem decodeComplete_take (bs : Bytes) (d : Nat) (hf : Spec.framing bs = .complete d)
    (sh : Option StorageHeader) (c : Nat) :
    decodeComplete sh (bs.take d) c
      = match bodyOf sh bs d with
        | some m => .item m c
        | none => .reject := by
  obtain ⟨_, hdl, hal⟩ := framing_complete_le bs d hf
  have hsa := stdHeaderLen_le_all (bs.headD 0#8)
  unfold decodeComplete bodyOf
  rw [stdHeaderOf_take bs d (Nat.le_trans hsa hal), extHeaderOf_take bs d hal,
    headD_take bs d 0#8 (by omega), List.drop_take]
  simp only []
  cases decodePayload (stdHeaderOf bs).endianness (extHeaderOf bs)
      ((bs.drop (Spec.allHeadersLen (bs.headD 0#8))).take
        (d - Spec.allHeadersLen (bs.headD 0#8))) <;> rfl

end Dlt
