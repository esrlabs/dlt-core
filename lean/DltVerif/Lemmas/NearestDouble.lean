/-
  C18: the value-level IEEE definition of rounding in Spec/Fixed.lean (`nearestDouble`) and the
  significand / exponent rounding of the model (`round53`) denote the same number, and
  rounding commutes with scaling by a power of two.
-/
import DltVerif.Lemmas.Round53
import DltVerif.Spec.Fixed

namespace Dlt
open Dlt.Spec

theorem bits_eq_bitLen (n : Nat) : Spec.bits n = bitLen n := rfl

theorem nearestDouble_eq (n : Nat) :
    nearestDouble n = rneQuot (2 ^ (bitLen n - 53)) n * 2 ^ (bitLen n - 53) := by
  unfold nearestDouble rneQuot
  rw [bits_eq_bitLen]
  have hu : 0 < 2 ^ (bitLen n - 53) := Nat.pow_pos (by omega)
  generalize 2 ^ (bitLen n - 53) = u at *
  have hdm := Nat.div_add_mod n u
  have hr := Nat.mod_lt n hu
  simp only [Nat.mul_div_cancel _ hu]
  rw [Nat.mul_comm] at hdm
  generalize n / u = q at *
  generalize n % u = r at *
  subst hdm
  -- `n = q * u + r` lies `r` above `lo = q * u` and `u - r` below `hi`: the Spec compares the two distances,
  -- `rneQuot` compares `2 * r` with `u`
  simp only [Nat.add_sub_cancel_left, Nat.add_sub_add_left]
  split
  · rw [if_pos (by omega)]
  · split
    · rw [if_neg (by omega), Nat.add_mul, Nat.one_mul]
    · split
      · rw [if_pos (by omega)]
      · rw [if_neg (by omega), Nat.add_mul, Nat.one_mul]

theorem nearestDouble_of_dvd (n k : Nat) (hk : Spec.bits n - 53 = k) (hd : n % 2 ^ k = 0) :
    nearestDouble n = n := by
  obtain ⟨a, ha⟩ := Nat.dvd_of_mod_eq_zero hd
  rw [nearestDouble_eq, ← bits_eq_bitLen, hk]
  conv => lhs; arg 1; rw [ha, Nat.mul_comm]
  rw [rneQuot_mul _ _ (Nat.pow_pos (by omega)), Nat.mul_comm, ← ha]

theorem nearestDouble_small (n : Nat) (h : bitLen n ≤ 53) : nearestDouble n = n :=
  nearestDouble_of_dvd n 0 (by rw [bits_eq_bitLen]; omega) (by simp [Nat.mod_one])

/-- the model's rounding denotes the value the IEEE definition prescribes -/
theorem round53_value (m : Nat) (e : Int) :
    ∃ k q : Nat, round53 m e = (q, e + (k : Int)) ∧ q * 2 ^ k = nearestDouble m :=
  ⟨_, _, round53_eq m e, (nearestDouble_eq m).symm⟩

theorem bitLen_mul_pow (a j : Nat) (ha : a ≠ 0) : bitLen (a * 2 ^ j) = bitLen a + j := by
  induction j with
  | zero => rw [Nat.pow_zero, Nat.mul_one, Nat.add_zero]
  | succ j ih =>
    have hne : a * 2 ^ j ≠ 0 := Nat.mul_ne_zero ha (Nat.pos_iff_ne_zero.mp (Nat.pow_pos (by omega)))
    rw [Nat.pow_succ, ← Nat.mul_assoc, Nat.mul_comm _ 2, ← Nat.add_assoc, ← ih]
    unfold bitLen
    rw [if_neg hne, if_neg (by omega), Nat.log2_two_mul hne]

/-- rounding commutes with scaling by a power of two (no exponent limits) -/
theorem nearestDouble_scale (a j : Nat) : nearestDouble (a * 2 ^ j) = nearestDouble a * 2 ^ j := by
  by_cases ha : a = 0
  · subst ha
    simp [nearestDouble_small 0 (by decide)]
  have hbl := bitLen_mul_pow a j ha
  by_cases hs : bitLen a ≤ 53
  · -- `a` is a double, and so is `a * 2^j`: its unit divides `2^j`
    rw [nearestDouble_small a hs]
    apply nearestDouble_of_dvd _ (bitLen a + j - 53) (by rw [bits_eq_bitLen, hbl])
    exact Nat.mod_eq_zero_of_dvd
      (Nat.dvd_trans (Nat.pow_dvd_pow 2 (by omega)) (Nat.dvd_mul_left _ _))
  · -- the unit of `a * 2^j` is `2^j` times the unit of `a`
    rw [nearestDouble_eq, nearestDouble_eq a, hbl,
      Nat.sub_add_comm (Nat.le_of_not_le hs), Nat.pow_add,
      rneQuot_scale _ _ _ (Nat.pow_pos (by omega)), Nat.mul_assoc]

end Dlt
