/-
  C10: the scan of `collect_statistics` over a byte stream visits exactly the headers of the
  messages the stream is made of, once each, in order.
-/
import DltVerif.Lemmas.Reader
import DltVerif.Spec.Stats

namespace Dlt

/-- what the scan makes of the Spec's pieces: every piece must be a message whose headers
    parse; a bad length or a truncated tail is an error -/
def visitPieces (w : Bool) : List Spec.Piece → Option (List Statistic)
  | [] => some []
  | .msg b :: rest =>
    match statisticOfSlice w b with
    | none => none
    | some st =>
      match visitPieces w rest with
      | none => none
      | some r => some (st :: r)
  | _ :: _ => none

theorem visitWith_cut (rx : Src → Nat → Src × Exact) (hrx : ExactContract rx) (w : Bool)
    (fuel : Nat) (s : Src) (hf : (s.buf ++ s.data).length < fuel) :
    visitWith rx w fuel s = visitPieces w (Spec.cut w (s.buf ++ s.data)) := by
  induction fuel generalizing s with
  | zero => cases hf
  | succ fuel ih =>
    rw [visitWith, cut_eq]
    obtain ⟨s', e, hr⟩ := nextMessageSliceWith_cut rx hrx w s
    rw [e]
    cases hc : cutHead w (s.buf ++ s.data) with
    | none => rfl
    | some x =>
      obtain ⟨p, r⟩ := x
      have := cutHead_lt hc
      obtain rfl := hr p r hc
      cases p with
      | msg b =>
        simp only [Spec.Piece.toRes, visitPieces,
          ih s' (Nat.lt_of_lt_of_le this (Nat.le_of_lt_succ hf))]
        cases statisticOfSlice w b with
        | none => rfl
        | some st => cases visitPieces w (Spec.cut w (s'.buf ++ s'.data)) <;> rfl
      | badLen => rfl
      | truncated => rfl

theorem visitWith_nil (rx : Src → Nat → Src × Exact) (hrx : ExactContract rx) (w : Bool)
    (fuel : Nat) (s : Src) (h : s.buf ++ s.data = []) : visitWith rx w fuel s = some [] := by
  cases fuel with
  | zero => rfl
  | succ fuel =>
    rw [visitWith_cut rx hrx w _ s (by rw [h]; exact Nat.zero_lt_succ _), h, cut_nil]
    rfl

theorem statisticOfSlice_storage (sh : StorageHeader) (h : idOk sh.ecuId = true) (body : Bytes) :
    statisticOfSlice true (sh.asBytes ++ body) = statisticOfSlice false body := by
  simp only [statisticOfSlice, if_true, dltStorageHeader_asBytes sh h, Bool.false_eq_true, if_false]

theorem statisticOfSlice_asBytes (m : Message) (w : Bool) (h : m.wf = true)
    (hw : m.storageHeader.isSome = w) : statisticOfSlice w m.asBytes = some (Spec.statisticOfMessage m) := by
  obtain ⟨hsh, hver, hid, hext, hehwf, _, _, htot⟩ := (Message.wf_iff m).1 h
  subst hw
  have body : statisticOfSlice false (m.header.asBytes ++ (ehBytes m.extendedHeader
      ++ m.payload.asBytes m.header.endianness)) = some (Spec.statisticOfMessage m) := by
    simp only [statisticOfSlice, Spec.statisticOfMessage, Bool.false_eq_true, if_false,
      dltStandardHeader_asBytes m.header hver hid htot, hext]
    cases hx : m.extendedHeader with
    | none => rfl
    | some eh =>
      simp only [Option.isSome_some, if_true, ehBytes, dltExtendedHeader_asBytes eh (hehwf eh hx),
        Option.map_some]
      cases eh.messageType <;> rfl
  rw [Message.asBytes_eq]
  cases hs : m.storageHeader with
  | none => exact body
  | some sh => exact (statisticOfSlice_storage sh (hsh sh hs) _).trans body

end Dlt
