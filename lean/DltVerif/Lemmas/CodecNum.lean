/-
  The Spec's digit sums are the model's byte-order readers / writers (C02, C13, the framing files).
-/
import DltVerif.Spec.Codec

namespace Dlt
open Dlt.Spec

theorem digitsLE_eq (k n : Nat) : digitsLE k n = bytesLE k n := by
  induction k generalizing n with
  | zero => rfl
  | succ k ih =>
    unfold digitsLE at *
    rw [List.range_succ_eq_map, List.map_cons, List.map_map, bytesLE]
    congr 1
    · apply BitVec.eq_of_toNat_eq
      simp
    · rw [← ih (n / 256)]
      apply List.map_congr_left
      intro i _
      simp only [Function.comp, Nat.pow_succ, Nat.div_div_eq_div_mul, Nat.mul_comm]

theorem digits_eq (e : Endian) (k n : Nat) : digits e k n = e.bytes k n := by
  cases e <;> simp [digits, Endian.bytes, bytesBE, digitsLE_eq]

theorem numBE_eq_fromBE (bs : Bytes) : numBE bs = fromBE bs := by
  unfold numBE fromBE
  rw [← List.foldr_reverse]
  generalize bs.reverse = l
  induction l with
  | nil => rfl
  | cons b l ih => simp only [List.foldr_cons, fromLE, ih]; omega

theorem num_eq (e : Endian) (bs : Bytes) : num e bs = e.value bs := by
  cases e
  · simp [num, Endian.value, numBE_eq_fromBE, fromBE]
  · simp [num, Endian.value, numBE_eq_fromBE]

end Dlt
