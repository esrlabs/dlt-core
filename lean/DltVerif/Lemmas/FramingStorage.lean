/-
  The pattern search (`firstPattern_some_iff`), storage-header mode (reduced to the no-storage
  parser behind the storage header: `dltMessageIntern_storage_cases`) and the message skipper
  (`dltConsumeMsg_pattern` behind the pattern, `dltConsumeMsg_sat` for what it returns at all).
-/
import DltVerif.Lemmas.Framing

namespace Dlt

theorem isPrefixOf_pattern (l : Bytes) :
    DLT_PATTERN.isPrefixOf l = true ↔ l.take 4 = DLT_PATTERN := by
  rw [List.isPrefixOf_iff_prefix, List.prefix_iff_eq_take]
  exact ⟨fun h => h.symm, fun h => h.symm⟩

theorem patternAt_eq (bs : Bytes) (n : Nat) :
    Spec.patternAt bs n = decide ((bs.drop n).take 4 = DLT_PATTERN) := by
  have h0 : ∀ l : Bytes, Spec.patternAt l 0 = true ↔ l.take 4 = DLT_PATTERN := by
    intro l
    unfold Spec.patternAt DLT_PATTERN
    rcases l with _ | ⟨a, _ | ⟨b, _ | ⟨c, _ | ⟨d, l⟩⟩⟩⟩ <;> simp [and_assoc]
  rw [Bool.eq_iff_iff, decide_eq_true_eq, ← h0]
  unfold Spec.patternAt
  simp only [List.getElem?_drop, Nat.add_zero, Nat.zero_add]

theorem pattern_add_le_length (bs : Bytes) (n : Nat) (h : (bs.drop n).take 4 = DLT_PATTERN) :
    n + 4 ≤ bs.length := by
  have := congrArg List.length h
  simp only [List.length_take, List.length_drop, DLT_PATTERN, List.length_cons, List.length_nil] at this
  omega

theorem firstPattern_some_iff (bs : Bytes) (n : Nat) :
    Spec.firstPattern bs = some n ↔
      ((bs.drop n).take 4 = DLT_PATTERN ∧ ∀ k, k < n → (bs.drop k).take 4 ≠ DLT_PATTERN) := by
  unfold Spec.firstPattern
  simp only [List.find?_range_eq_some, patternAt_eq, decide_eq_true_eq, Bool.not_eq_true',
    decide_eq_false_iff_not, List.mem_range]
  exact ⟨fun ⟨h1, _, h3⟩ => ⟨h1, h3⟩,
    fun ⟨h1, h3⟩ => ⟨h1, by have := pattern_add_le_length bs n h1; omega, h3⟩⟩

theorem firstPattern_none_iff (bs : Bytes) :
    Spec.firstPattern bs = none ↔ ∀ k, (bs.drop k).take 4 ≠ DLT_PATTERN := by
  unfold Spec.firstPattern
  simp only [List.find?_range_eq_none, patternAt_eq, Bool.not_eq_true', decide_eq_false_iff_not]
  exact ⟨fun h k hc => h k (by have := pattern_add_le_length bs k hc; omega) hc, fun h i _ => h i⟩

/-- the model's scan (memmem contract) finds what the index-based Spec search finds -/
theorem findPattern_eq_firstPattern (bs : Bytes) :
    findPattern DLT_PATTERN bs = Spec.firstPattern bs := by
  induction bs with
  | nil => rfl
  | cons b t ih =>
    unfold findPattern
    rw [ih]
    symm
    by_cases hp : DLT_PATTERN.isPrefixOf (b :: t) = true
    · rw [if_pos hp, firstPattern_some_iff]
      exact ⟨(isPrefixOf_pattern _).1 hp, fun k hk => absurd hk (Nat.not_lt_zero k)⟩
    · have hp' : (b :: t).take 4 ≠ DLT_PATTERN := fun h => hp ((isPrefixOf_pattern _).2 h)
      rw [if_neg hp]
      cases hf : Spec.firstPattern t with
      | none =>
        rw [Option.map_none, firstPattern_none_iff]
        intro k
        cases k with
        | zero => exact hp'
        | succ j => exact (firstPattern_none_iff t).1 hf j
      | some m =>
        obtain ⟨h1, h2⟩ := (firstPattern_some_iff t m).1 hf
        rw [Option.map_some, firstPattern_some_iff]
        refine ⟨h1, fun k hk => ?_⟩
        cases k with
        | zero => exact hp'
        | succ j => exact h2 j (by omega)

theorem eq_pattern_append (r : Bytes) (hp : r.take 4 = DLT_PATTERN) :
    r = [0x44#8, 0x4C#8, 0x54#8] ++ ([0x01#8] ++ r.drop 4) := by
  conv => lhs; rw [← List.take_append_drop 4 r, hp]
  rfl

/-- `dlt_storage_header` behind the pattern: two little-endian words and a 4-byte id (a stretch
    of the model's text, tied to it by `dltStorageHeader_found`) -/
def storageHeaderTail (consumed : Nat) (i : Bytes) : PRes (Option (StorageHeader × Nat)) :=
  (bitsN .little 4 i).andThen fun seconds i =>
  (bitsN .little 4 i).andThen fun microseconds i =>
  (zts 4 i).andThen fun ecuId afterString =>
    .ok (some ({ timestamp := { seconds := seconds, microseconds := microseconds },
                 ecuId := ecuId }, consumed)) afterString

theorem dltStorageHeader_found (bs : Bytes) (skip : Nat) (h16 : 16 ≤ bs.length)
    (hs : Spec.firstPattern bs = some skip) :
    dltStorageHeader bs = storageHeaderTail skip ((bs.drop skip).drop 4) := by
  unfold dltStorageHeader forwardToNextStorageHeader
  rw [if_neg (show ¬ bs.length < STORAGE_HEADER_LENGTH from Nat.not_lt.2 h16), findPattern_eq_firstPattern, hs]
  simp only [Option.map_some]
  rw [eq_pattern_append _ ((firstPattern_some_iff bs skip).1 hs).1, tag_append, PRes.andThen_ok,
    tag_append, PRes.andThen_ok]
  rfl

theorem storageHeaderTail_takes (c : Nat) : Takes 12 (storageHeaderTail c) fun _ => True :=
  show Takes (4 + (4 + (4 + 0))) _ _ from
  (bitsN_takes .little 4).bind fun _ _ => (bitsN_takes .little 4).bind fun _ _ =>
    (zts_takes 4).bind fun _ _ => Needs.zero fun _ => ⟨_, rfl, trivial⟩

theorem dltMessageIntern_storage_short (bs : Bytes) (f : Option ProcessedFilter)
    (h : bs.length < 16) : dltMessageIntern bs f true = .incomplete none := by
  unfold dltMessageIntern dltStorageHeader
  rw [if_pos rfl, if_pos (show bs.length < STORAGE_HEADER_LENGTH from h)]
  rfl

open Spec in
theorem bitsN_little4 (r : Bytes) (h : 4 ≤ r.length) :
    bitsN .little 4 r = .ok (BitVec.ofNat 32 (numBE (r.take 4).reverse)) (r.drop 4) := by
  rw [bitsN_of_le _ _ _ h, Endian.value, numBE_eq_fromBE, fromBE, List.reverse_reverse]

theorem storageHeaderTail_exact (c : Nat) (x : Bytes) (h : 16 ≤ x.length) :
    storageHeaderTail c (x.drop 4)
      = .ok (some (Spec.storageHeaderOf (x.take 16), c)) (x.drop 16) := by
  unfold storageHeaderTail Spec.storageHeaderOf Spec.at4
  simp (disch := (first | omega | (simp only [List.length_drop]; omega))) only [bitsN_little4, zts4,
    PRes.andThen_ok, List.drop_drop, List.drop_take, List.take_take]
  rfl

theorem dltMessageIntern_storage_exact (bs : Bytes) (f : Option ProcessedFilter) (skip : Nat)
    (hs : Spec.firstPattern bs = some skip) (h : skip + 16 ≤ bs.length) :
    idOk (Spec.storageHeaderOf ((bs.drop skip).take 16)).ecuId = true ∧
    dltMessageIntern bs f true =
      (dltMessageIntern (bs.drop (skip + 16)) f false).map
        (ParsedMessage.withStorage (Spec.storageHeaderOf ((bs.drop skip).take 16))) := by
  constructor
  · exact (idOk_iff _).2 (zts_ok_value (zts4 (((bs.drop skip).take 16).drop 12)
      (by simp only [List.length_drop, List.length_take]; omega)))
  · rw [dltMessageIntern_true_eq, dltStorageHeader_found bs skip (by omega) hs,
      storageHeaderTail_exact _ _ (by rw [List.length_drop]; omega), PRes.andThen_ok,
      dltMessageIntern_false_eq, List.drop_drop]
    exact msgBody_some _ _ f

theorem ParsedMessage.withStorage_ne_invalid (sh : StorageHeader) {r : ParsedMessage}
    (h : r ≠ .invalid) : r.withStorage sh ≠ .invalid := by
  cases r with
  | invalid => exact absurd rfl h
  | _ => intro hc; cases hc

theorem ParsedMessage.withStorage_eq_filteredOut {sh : StorageHeader} {r : ParsedMessage} {n : Nat}
    (h : r.withStorage sh = .filteredOut n) : r = .filteredOut n := by
  cases r with
  | filteredOut k => exact h
  | _ => cases h

theorem ParsedMessage.withStorage_eq_item {sh : StorageHeader} {r : ParsedMessage} {m : Message}
    (h : r.withStorage sh = .item m) :
    ∃ m0, r = .item m0 ∧ m = { m0 with storageHeader := some sh } := by
  cases r with
  | item m0 => injection h with h; exact ⟨m0, rfl, h.symm⟩
  | _ => cases h

theorem storageFraming_located (bs : Bytes) (skip : Nat) (hs : Spec.firstPattern bs = some skip)
    (hl : skip + 16 ≤ bs.length) :
    Spec.storageFraming bs =
      match Spec.framing (bs.drop (skip + 16)) with
      | .incomplete b => .incomplete (some b)
      | .reject => .reject
      | .complete d => .complete skip d := by
  unfold Spec.storageFraming
  rw [if_neg (by omega), hs]
  simp only []
  rw [if_neg (by omega)]
  cases Spec.framing (bs.drop (skip + 16)) <;> rfl

theorem dltMessageIntern_storage_cases (bs : Bytes) (f : Option ProcessedFilter) :
    (∃ hint, dltMessageIntern bs f true = .incomplete hint
        ∧ Spec.storageFraming bs = .incomplete none)
    ∨ ∃ skip, Spec.firstPattern bs = some skip ∧ skip + 16 ≤ bs.length
        ∧ idOk (Spec.storageHeaderOf ((bs.drop skip).take 16)).ecuId = true
        ∧ dltMessageIntern bs f true
          = (dltMessageIntern (bs.drop (skip + 16)) f false).map
              (ParsedMessage.withStorage (Spec.storageHeaderOf ((bs.drop skip).take 16))) := by
  unfold Spec.storageFraming
  by_cases h16 : bs.length < 16
  · exact Or.inl ⟨_, dltMessageIntern_storage_short bs f h16, if_pos h16⟩
  · rw [if_neg h16]
    cases hs : Spec.firstPattern bs with
    | none =>
      refine Or.inl ⟨some 1, ?_, rfl⟩
      unfold dltMessageIntern dltStorageHeader forwardToNextStorageHeader
      rw [if_pos rfl, if_neg (show ¬ bs.length < STORAGE_HEADER_LENGTH from h16), findPattern_eq_firstPattern, hs]
      rfl
    | some skip =>
      by_cases hc : bs.length - skip < 16
      · -- the pattern is there, the 12 bytes behind it are not
        have hl := pattern_add_le_length bs skip ((firstPattern_some_iff bs skip).1 hs).1
        obtain ⟨n, hn, _⟩ := (storageHeaderTail_takes skip).short
          (i := (bs.drop skip).drop 4) (by
            simp only [List.length_drop]
            exact Nat.sub_lt_sub_right (Nat.le_sub_of_add_le' hl) hc)
        refine Or.inl ⟨some n, ?_, if_pos hc⟩
        rw [dltMessageIntern_true_eq, dltStorageHeader_found bs skip (by omega) hs, hn]
        rfl
      · obtain ⟨hid, he⟩ := dltMessageIntern_storage_exact bs f skip hs (by omega)
        exact Or.inr ⟨skip, rfl, by omega, hid, he⟩

theorem storage_of_ok {bs : Bytes} {f : Option ProcessedFilter} {res : ParsedMessage}
    {rest : Bytes} (h : dltMessageIntern bs f true = .ok res rest) :
    ∃ skip res', Spec.firstPattern bs = some skip ∧ skip + 16 ≤ bs.length
      ∧ dltMessageIntern (bs.drop (skip + 16)) f false = .ok res' rest
      ∧ res = res'.withStorage (Spec.storageHeaderOf ((bs.drop skip).take 16)) := by
  rcases dltMessageIntern_storage_cases bs f with ⟨_, hi, _⟩ | ⟨skip, hs, hl, _, he⟩
  · rw [hi] at h; cases h
  · rw [he] at h
    obtain ⟨res', h1, h2⟩ := map_ok_inv h
    exact ⟨skip, res', hs, hl, h1, h2⟩

theorem skipStorageHeader_sat (bs : Bytes) :
    (skipStorageHeader bs).Sat fun _ _ => bs.take 4 = DLT_PATTERN := by
  refine (ParserImage.tag_sat _ bs).andThen fun _ i h1 => (ParserImage.tag_sat _ i).andThen fun _ i2 h2 =>
    (ParserImage.take_sat 12 i2).andThen fun _ i3 h3 => ?_
  have hl := h3.1.length
  rw [h1, h2]
  simp only [List.length_append, List.length_cons, List.length_nil]
  rw [if_neg (by omega)]
  split
  · rfl
  · trivial

theorem skipStorageHeader_pattern (bs : Bytes) (hp : bs.take 4 = DLT_PATTERN) :
    if bs.length < 16 then
      ∃ n, skipStorageHeader bs = .incomplete (some n) ∧ 1 ≤ n ∧ n ≤ 16 - bs.length
    else skipStorageHeader bs = .ok 16 (bs.drop 16) := by
  obtain ⟨r, rfl⟩ : ∃ r, bs = [0x44#8, 0x4C#8, 0x54#8] ++ ([0x01#8] ++ r) :=
    ⟨_, eq_pattern_append bs hp⟩
  unfold skipStorageHeader
  rw [tag_append, PRes.andThen_ok, tag_append, PRes.andThen_ok]
  simp only [List.length_append, List.length_cons, List.length_nil, STORAGE_HEADER_LENGTH]
  by_cases c : r.length < 12
  · obtain ⟨n, hn, h1, h2⟩ := (take_takes 12).short c
    rw [if_pos (by omega), hn]
    exact ⟨n, rfl, h1, by omega⟩
  · rw [if_neg (by omega), take_of_le (by omega), PRes.andThen_ok, List.length_drop,
      if_neg (by omega), if_pos (by omega)]
    rfl

theorem dltConsumeMsg_short (bs : Bytes) (hp : bs.take 4 = DLT_PATTERN) (hl : bs.length < 16) :
    ∃ n, dltConsumeMsg bs = .incomplete (some n) ∧ 1 ≤ n ∧ n ≤ 16 - bs.length := by
  have hs := skipStorageHeader_pattern bs hp
  rw [if_pos hl] at hs
  obtain ⟨n, hn, hb⟩ := hs
  cases bs with
  | nil => exact absurd hp (by decide)
  | cons a t =>
    refine ⟨n, ?_, hb⟩
    show (skipStorageHeader (a :: t)).andThen _ = _
    rw [hn]
    rfl

/-- The skipper does not read the extended header, so with the standard header present its hint
    is the shortfall to the declared length, not the Spec's bound: hence the second alternative. -/
theorem dltConsumeMsg_pattern (bs : Bytes) (hp : bs.take 4 = DLT_PATTERN) (h16 : 16 ≤ bs.length) :
    match Spec.framing (bs.drop 16) with
    | .complete d => dltConsumeMsg bs = .ok (some (16 + d)) ((bs.drop 16).drop d)
    | .reject => dltConsumeMsg bs = .error
    | .incomplete b =>
      ∃ n, dltConsumeMsg bs = .incomplete (some n) ∧ 1 ≤ n
        ∧ (n ≤ b ∨ Spec.stdHeaderLen ((bs.drop 16).headD 0#8) ≤ (bs.drop 16).length
            ∧ n + (bs.drop 16).length ≤ Spec.declaredLen (bs.drop 16)) := by
  have hs := skipStorageHeader_pattern bs hp
  rw [if_neg (by omega)] at hs
  cases bs with
  | nil => exact absurd h16 (by simp only [List.length_nil]; omega)
  | cons a t =>
    unfold dltConsumeMsg
    rw [show (a :: t).isEmpty = false from rfl]
    simp only [Bool.false_eq_true, if_false]
    rw [hs, PRes.andThen_ok]
    generalize (a :: t).drop 16 = q
    rcases dltStandardHeader_closed q with ⟨b, n, hf, hn, h1, h2⟩ | ⟨hf, he⟩ | ⟨c1, c2, he, hf⟩
    · rw [hf, hn]
      exact ⟨n, rfl, h1, Or.inl h2⟩
    · rw [hf, he]
      rfl
    · rw [hf, he]
      obtain ⟨hlen, _⟩ := stdHeaderOf_facts q c1 c2
      obtain ⟨hp, ho⟩ := StandardHeader.overallLength_of_lt hlen (declaredLen_lt q)
      rw [PRes.andThen_ok, hp, ho]
      simp only [Bool.false_eq_true, if_false]
      by_cases c3 : q.length < Spec.declaredLen q
      · obtain ⟨n, hn, h1, h2⟩ := (take_takes _).short c3
        rw [hn]
        by_cases c4 : q.length < Spec.allHeadersLen (q.headD 0#8)
        · rw [if_pos c4]
          exact ⟨n, rfl, h1, Or.inr ⟨c1, by omega⟩⟩
        · rw [if_neg c4, if_pos c3]
          exact ⟨n, rfl, h1, Or.inr ⟨c1, by omega⟩⟩
      · rw [if_neg (Nat.not_lt.2 (Nat.le_trans c2 (Nat.not_lt.1 c3))), if_neg c3,
          take_of_le (Nat.not_lt.1 c3)]
        rfl

theorem dltConsumeMsg_sat (bs : Bytes) :
    (dltConsumeMsg bs).Sat fun v r =>
      (bs = [] ∧ v = none ∧ r = []) ∨
      (bs.take 4 = DLT_PATTERN ∧ 16 ≤ bs.length ∧
        ∃ d, Spec.framing (bs.drop 16) = .complete d ∧ v = some (16 + d)
          ∧ r = (bs.drop 16).drop d) := by
  cases bs with
  | nil => exact Or.inl ⟨rfl, rfl, rfl⟩
  | cons a t =>
    by_cases hp : (a :: t).take 4 = DLT_PATTERN
    · by_cases c : (a :: t).length < 16
      · obtain ⟨n, hn, _⟩ := dltConsumeMsg_short _ hp c
        rw [hn]
        trivial
      · have h := dltConsumeMsg_pattern _ hp (by omega)
        split at h
        · rename_i d hf
          rw [h]
          exact Or.inr ⟨hp, by omega, d, hf, rfl, rfl⟩
        · rw [h]
          trivial
        · obtain ⟨n, hn, _⟩ := h
          rw [hn]
          trivial
    · exact (skipStorageHeader_sat (a :: t)).andThen fun _ _ h => absurd h hp

theorem dltConsumeMsg_take (bs : Bytes) (d : Nat) (hp : bs.take 4 = DLT_PATTERN)
    (h16 : 16 ≤ bs.length) (hf : Spec.framing (bs.drop 16) = .complete d)
    (k : Nat) (hk0 : 0 < k) (hk : k < 16 + d) :
    ∃ n, dltConsumeMsg (bs.take k) = .incomplete (some n) ∧ 1 ≤ n ∧ n ≤ 16 + d - k := by
  obtain ⟨_, _, _, _, _, hdl, hdd⟩ := (framing_complete_iff _ d).1 hf
  rw [List.length_drop] at hdl
  have hlen : (bs.take k).length = k := List.length_take_of_le (by omega)
  by_cases h4 : k < 4
  · -- a proper prefix of the pattern
    have e : bs.take k = DLT_PATTERN.take k := by
      rw [← hp, List.take_take, Nat.min_eq_left (by omega)]
    rw [e]
    obtain rfl | rfl | rfl : k = 1 ∨ k = 2 ∨ k = 3 := by omega
    · exact ⟨2, rfl, by omega, by omega⟩
    · exact ⟨1, rfl, by omega, by omega⟩
    · exact ⟨1, rfl, by omega, by omega⟩
  · have hp' : (bs.take k).take 4 = DLT_PATTERN := by
      rw [List.take_take, Nat.min_eq_left (Nat.not_lt.1 h4), hp]
    by_cases c : k < 16
    · obtain ⟨n, hn, h1, h2⟩ := dltConsumeMsg_short _ hp' (by omega)
      exact ⟨n, hn, h1, Nat.le_trans (hlen ▸ h2) (Nat.sub_le_sub_right (Nat.le_add_right ..) _)⟩
    · obtain ⟨b, hb, hbl⟩ := framing_take_of_complete _ d hf (k - 16) (by omega)
      have hc := dltConsumeMsg_pattern _ hp' (by omega)
      rw [List.drop_take, hb] at hc
      obtain ⟨n, hn, h1, h2⟩ := hc
      refine ⟨n, hn, h1, ?_⟩
      rw [Nat.add_comm, ← Nat.sub_sub_right d (Nat.le_of_not_lt c)]
      rcases h2 with h2 | ⟨h3, h2⟩
      · exact Nat.le_trans h2 hbl
      · rw [List.length_take, List.length_drop] at h3 h2
        rw [declaredLen_take _ _ (Nat.le_trans (stdHeaderLen_ge _)
          (Nat.le_trans h3 (Nat.min_le_left _ _))), ← hdd] at h2
        omega

end Dlt
