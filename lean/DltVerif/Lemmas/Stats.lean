/-
  The association-list statistics maps behave like finite maps of counters.
-/
import DltVerif.Spec.Stats

namespace Dlt

open Spec

def keys (m : IdMap) : List Bytes := m.map (·.1)

/-- sum of all eight buckets of all entries -/
def totalOf (m : IdMap) : Nat :=
  (m.map fun e => e.2.nonLog + e.2.logFatal + e.2.logError + e.2.logWarning + e.2.logInfo
    + e.2.logDebug + e.2.logVerbose + e.2.logInvalid).sum

theorem keys_nil : keys [] = [] := rfl

theorem keys_cons (k : Bytes) (n : LevelDistribution) (m : IdMap) :
    keys ((k, n) :: m) = k :: keys m := rfl

theorem keys_append (m m' : IdMap) : keys (m ++ m') = keys m ++ keys m' := by
  simp [keys]

theorem lookup_nil (id : Bytes) (b : Bucket) : lookup [] id b = 0 := rfl

theorem lookup_cons (k : Bytes) (n : LevelDistribution) (rest : IdMap) (id : Bytes) (b : Bucket) :
    lookup ((k, n) :: rest) id b = if k = id then LevelDistribution.get n b else lookup rest id b := by
  unfold lookup
  by_cases h : k = id <;> simp [h]

theorem lookup_of_not_mem (m : IdMap) (id : Bytes) (b : Bucket) (h : id ∉ keys m) :
    lookup m id b = 0 := by
  induction m with
  | nil => rfl
  | cons e rest ih =>
    obtain ⟨k, n⟩ := e
    rw [keys_cons, List.mem_cons, not_or] at h
    rw [lookup_cons, if_neg (Ne.symm h.1)]
    exact ih h.2

theorem lookup_append (m m' : IdMap) (id : Bytes) (b : Bucket) :
    lookup (m ++ m') id b = if id ∈ keys m then lookup m id b else lookup m' id b := by
  induction m with
  | nil => simp [keys]
  | cons e rest ih =>
    obtain ⟨k, n⟩ := e
    rw [List.cons_append, lookup_cons, lookup_cons, keys_cons, ih]
    by_cases hk : k = id
    · simp [hk]
    · simp [hk, Ne.symm hk]

theorem new_eq_bump (level : Option LogLevel) :
    LevelDistribution.new level = ({} : LevelDistribution).bump level := by
  cases level with
  | none => rfl
  | some l => cases l <;> rfl

theorem get_bump (n : LevelDistribution) (level : Option LogLevel) (b : Bucket) :
    LevelDistribution.get (n.bump level) b
      = LevelDistribution.get n b + (if bucketOf level = b then 1 else 0) := by
  cases level with
  | none => cases b <;> rfl
  | some l => cases l <;> cases b <;> rfl

theorem get_new (level : Option LogLevel) (b : Bucket) :
    LevelDistribution.get (LevelDistribution.new level) b
      = (if bucketOf level = b then 1 else 0) := by
  rw [new_eq_bump, get_bump]
  cases b <;> exact Nat.zero_add _

theorem get_merge (x y : LevelDistribution) (b : Bucket) :
    LevelDistribution.get (x.merge y) b
      = LevelDistribution.get x b + LevelDistribution.get y b := by
  cases b <;> rfl

theorem nodup_insert (l : List Bytes) (id : Bytes) (h : l.Nodup) :
    (if id ∈ l then l else l ++ [id]).Nodup := by
  split
  · exact h
  · rename_i hm
    rw [List.nodup_append]
    refine ⟨h, by simp, ?_⟩
    intro a ha b hb
    rw [List.mem_singleton] at hb
    exact fun hab => hm (hb ▸ hab ▸ ha)

theorem addForLevel_keys (level : Option LogLevel) (m : IdMap) (id : Bytes) :
    keys (addForLevel level m id) = if id ∈ keys m then keys m else keys m ++ [id] := by
  induction m with
  | nil => simp [addForLevel, keys]
  | cons e rest ih =>
    obtain ⟨k, n⟩ := e
    simp only [addForLevel]
    by_cases hk : k = id
    · simp [hk, keys]
    · rw [if_neg hk, keys_cons, keys_cons, ih]
      by_cases hm : id ∈ keys rest
      · simp [hm]
      · simp [hm, Ne.symm hk]

/-- `add_for_level` increments exactly the bucket of `level` under `id` (the first entry of
    `id` is the one updated and the one `lookup` sees, so repetitions do not matter) -/
theorem addForLevel_lookup (level : Option LogLevel) (m : IdMap) (id id' : Bytes) (b : Bucket) :
    lookup (addForLevel level m id) id' b
      = lookup m id' b + (if id = id' ∧ bucketOf level = b then 1 else 0) := by
  induction m with
  | nil =>
    rw [addForLevel, lookup_cons, lookup_nil, get_new]
    by_cases h1 : id = id' <;> simp [h1]
  | cons e rest ih =>
    obtain ⟨k, n⟩ := e
    rw [addForLevel]
    by_cases hk : k = id
    · subst hk
      rw [if_pos rfl, lookup_cons, lookup_cons, get_bump]
      by_cases h1 : k = id' <;> simp [h1]
    · rw [if_neg hk, lookup_cons, lookup_cons, ih]
      by_cases h1 : k = id'
      · subst h1; simp [Ne.symm hk]
      · simp [h1]

/-- sum of the eight buckets of one entry -/
def LevelDistribution.total (n : LevelDistribution) : Nat :=
  n.nonLog + n.logFatal + n.logError + n.logWarning + n.logInfo + n.logDebug + n.logVerbose
    + n.logInvalid

theorem total_bump (n : LevelDistribution) (level : Option LogLevel) :
    (n.bump level).total = n.total + 1 := by
  cases level with
  | none => simp only [LevelDistribution.bump, LevelDistribution.total, Nat.add_right_comm _ 1]
  | some l =>
    cases l <;> simp only [LevelDistribution.bump, LevelDistribution.total, ← Nat.add_assoc,
      Nat.add_right_comm _ 1]

theorem totalOf_nil : totalOf [] = 0 := rfl

theorem totalOf_cons (k : Bytes) (n : LevelDistribution) (m : IdMap) :
    totalOf ((k, n) :: m) = n.total + totalOf m := by
  simp [totalOf, LevelDistribution.total]

theorem addForLevel_total (level : Option LogLevel) (m : IdMap) (id : Bytes) :
    totalOf (addForLevel level m id) = totalOf m + 1 := by
  induction m with
  | nil => rw [addForLevel, new_eq_bump, totalOf_cons, total_bump]; rfl
  | cons e rest ih =>
    obtain ⟨k, n⟩ := e
    rw [addForLevel]
    split
    · rw [totalOf_cons, totalOf_cons, total_bump, Nat.add_right_comm]
    · rw [totalOf_cons, totalOf_cons, ih, Nat.add_assoc]

/-- one step of `merge_levels` (the body of the model's fold, see `mergeLevels_cons`) -/
def mergeStep (owner : IdMap) (id : Bytes) (income : LevelDistribution) : IdMap :=
  if owner.any (fun e => e.1 = id) then
    owner.map (fun e => if e.1 = id then (e.1, e.2.merge income) else e)
  else owner ++ [(id, income)]

theorem mergeLevels_cons (owner : IdMap) (id : Bytes) (income : LevelDistribution) (rest : IdMap) :
    mergeLevels owner ((id, income) :: rest) = mergeLevels (mergeStep owner id income) rest := rfl

theorem any_key_iff (m : IdMap) (id : Bytes) :
    (m.any (fun e => decide (e.1 = id))) = true ↔ id ∈ keys m := by
  simp only [keys, List.any_eq_true, List.mem_map, decide_eq_true_eq]

theorem keys_map_merge (m : IdMap) (id : Bytes) (income : LevelDistribution) :
    keys (m.map (fun e => if e.1 = id then (e.1, e.2.merge income) else e)) = keys m := by
  unfold keys
  rw [List.map_map]
  apply List.map_congr_left
  intro e _
  simp only [Function.comp]
  split <;> rfl

theorem lookup_map_merge (m : IdMap) (id : Bytes) (income : LevelDistribution)
    (id' : Bytes) (b : Bucket) :
    lookup (m.map (fun e => if e.1 = id then (e.1, e.2.merge income) else e)) id' b
      = lookup m id' b + (if id = id' ∧ id ∈ keys m then LevelDistribution.get income b else 0) := by
  induction m with
  | nil => simp [lookup_nil, keys]
  | cons e rest ih =>
    obtain ⟨k, n⟩ := e
    rw [List.map_cons, keys_cons]
    by_cases hk : k = id
    · subst hk
      rw [if_pos rfl, lookup_cons, lookup_cons, get_merge, ih]
      by_cases h1 : k = id' <;> simp [h1]
    · rw [if_neg hk, lookup_cons, lookup_cons, ih]
      by_cases h1 : k = id'
      · subst h1; simp [Ne.symm hk]
      · simp [h1, Ne.symm hk]

theorem mergeStep_keys (owner : IdMap) (id : Bytes) (income : LevelDistribution) :
    keys (mergeStep owner id income)
      = if id ∈ keys owner then keys owner else keys owner ++ [id] := by
  unfold mergeStep
  simp only [any_key_iff]
  split
  · exact keys_map_merge owner id income
  · exact keys_append owner _

theorem mergeStep_lookup (owner : IdMap) (id : Bytes) (income : LevelDistribution)
    (id' : Bytes) (b : Bucket) :
    lookup (mergeStep owner id income) id' b
      = lookup owner id' b + (if id = id' then LevelDistribution.get income b else 0) := by
  unfold mergeStep
  simp only [any_key_iff]
  split
  · rename_i hm
    rw [lookup_map_merge]
    simp [hm]
  · rename_i hm
    rw [lookup_append, lookup_cons, lookup_nil]
    by_cases h2 : id' ∈ keys owner
    · have : id ≠ id' := fun h => hm (h ▸ h2)
      simp [h2, this]
    · simp [h2, lookup_of_not_mem _ _ _ h2]

theorem mergeLevels_keys_nodup (a b : IdMap) (ha : (keys a).Nodup) :
    (keys (mergeLevels a b)).Nodup := by
  induction b generalizing a with
  | nil => exact ha
  | cons e rest ih =>
    obtain ⟨id, income⟩ := e
    rw [mergeLevels_cons]
    refine ih _ ?_
    rw [mergeStep_keys]
    exact nodup_insert _ _ ha

/-- `merge_levels` adds the counters id by id (every income is added where `lookup` looks;
    only the incoming map must list no id twice, since `lookup` sees its first entry alone) -/
theorem mergeLevels_lookup (a b : IdMap) (hb : (keys b).Nodup) (id : Bytes) (bk : Bucket) :
    lookup (mergeLevels a b) id bk = lookup a id bk + lookup b id bk := by
  induction b generalizing a with
  | nil => rfl
  | cons e rest ih =>
    obtain ⟨id0, income⟩ := e
    rw [keys_cons, List.nodup_cons] at hb
    rw [mergeLevels_cons, ih _ hb.2, mergeStep_lookup, lookup_cons]
    by_cases h1 : id0 = id
    · subst h1
      rw [lookup_of_not_mem _ _ _ hb.1]
      simp
    · simp [h1]

/-- the id map of a collector for a keying (mirrors `Spec.mapOf`) -/
def collMap : Keying → Collector → IdMap
  | .ecu, c => c.ecuIds
  | .app, c => c.appIds
  | .ctx, c => c.contextIds

theorem collMap_collectStatistic (k : Keying) (c : Collector) (st : Statistic) :
    collMap k (c.collectStatistic st) =
      match keyOf k st with
      | some id => addForLevel st.logLevel (collMap k c) id
      | none => collMap k c := by
  obtain ⟨lvl, ecu, ext, vb⟩ := st
  cases k <;> rcases ext with _ | ⟨app, ctx⟩ <;> rfl

theorem foldl_collect_keys_nodup (sts : List Statistic) (c : Collector) (k : Keying)
    (h : (keys (collMap k c)).Nodup) :
    (keys (collMap k (sts.foldl Collector.collectStatistic c))).Nodup := by
  induction sts generalizing c with
  | nil => exact h
  | cons st rest ih =>
    rw [List.foldl_cons]
    refine ih _ ?_
    rw [collMap_collectStatistic]
    split
    · rw [addForLevel_keys]
      exact nodup_insert _ _ h
    · exact h

theorem foldl_collect_lookup (sts : List Statistic) (c : Collector) (k : Keying) (id : Bytes)
    (b : Bucket) :
    lookup (collMap k (sts.foldl Collector.collectStatistic c)) id b
      = lookup (collMap k c) id b + tally k sts id b := by
  induction sts generalizing c with
  | nil => simp [tally]
  | cons st rest ih =>
    rw [List.foldl_cons, ih, collMap_collectStatistic]
    unfold tally
    rw [List.countP_cons]
    split
    · rename_i id0 e
      rw [addForLevel_lookup, e]
      simp only [Option.some.injEq, Bool.and_eq_true, decide_eq_true_eq, beq_iff_eq]
      rw [Nat.add_assoc, Nat.add_comm (ite ..)]
    · rename_i e
      simp [e]

theorem foldl_collect_nonverbose (sts : List Statistic) (c : Collector) :
    (sts.foldl Collector.collectStatistic c).containedNonVerbose
      = (c.containedNonVerbose || anyNonVerbose sts) := by
  induction sts generalizing c with
  | nil => simp [anyNonVerbose]
  | cons st rest ih =>
    rw [List.foldl_cons, ih]
    simp [anyNonVerbose, Collector.collectStatistic, Bool.or_assoc]

theorem foldl_collect_total (sts : List Statistic) (c : Collector) :
    totalOf (sts.foldl Collector.collectStatistic c).ecuIds = totalOf c.ecuIds + sts.length := by
  induction sts generalizing c with
  | nil => simp
  | cons st rest ih =>
    rw [List.foldl_cons, ih]
    show totalOf (addForLevel _ _ _) + _ = _
    rw [addForLevel_total, List.length_cons, Nat.add_assoc, Nat.add_comm 1]

theorem mapOf_collectInfo (k : Keying) (sts : List Statistic) :
    mapOf k (collectInfo sts) = collMap k (sts.foldl Collector.collectStatistic {}) := by
  cases k <;> rfl

theorem mapOf_merge (k : Keying) (a b : StatisticInfo) :
    mapOf k (a.merge b) = mergeLevels (mapOf k a) (mapOf k b) := by
  cases k <;> rfl

theorem mapOf_empty (k : Keying) : mapOf k {} = [] := by
  cases k <;> rfl

theorem collMap_empty (k : Keying) : collMap k {} = [] := by
  cases k <;> rfl

theorem map_getD_range {α : Type} (l : List α) (d : α) :
    (List.range l.length).map (fun i => l.getD i d) = l := by
  apply List.ext_getElem
  · simp
  · intro i h1 h2
    simp [List.getD_eq_getElem?_getD, h2]

/-- re-indexing a list by a permutation of its indices: the leaves of a merge tree in
    `C10_merge_any_tree` -/
theorem perm_getD_range {α : Type} (l : List Nat) (ps : List α) (d : α)
    (h : l.Perm (List.range ps.length)) : (l.map (ps.getD · d)).Perm ps := by
  have := h.map (ps.getD · d)
  rwa [map_getD_range] at this

theorem tally_flatten (k : Keying) (parts : List (List Statistic)) (id : Bytes) (b : Bucket) :
    tally k parts.flatten id b = (parts.map fun p => tally k p id b).sum := by
  unfold tally
  rw [List.countP_flatten]

theorem anyNonVerbose_flatten (parts : List (List Statistic)) :
    anyNonVerbose parts.flatten = parts.any anyNonVerbose := by
  unfold anyNonVerbose
  rw [List.any_flatten]

end Dlt
