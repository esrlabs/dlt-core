/-
  C02, decoding: the parser model, with its failure classes collapsed, is the Spec's
  consumer-style decoder (arguments, payload).
-/
import DltVerif.Lemmas.CodecNum
import DltVerif.Lemmas.ParserSat

namespace Dlt
open Dlt.Spec

/-- forget why a parser did not succeed -/
def PRes.toOpt {α : Type} : PRes α → Option (α × Bytes)
  | .ok v r => some (v, r)
  | _ => none

theorem toOpt_andThen {α β : Type} (p : PRes α) (f : α → Bytes → PRes β) :
    (p.andThen f).toOpt = match p.toOpt with
      | some (a, r) => (f a r).toOpt
      | none => none := by
  cases p <;> rfl

theorem toOpt_map {α β : Type} (p : PRes α) (f : α → β) :
    (p.map f).toOpt = p.toOpt.map fun (a, r) => (f a, r) := by
  cases p <;> rfl

/-- transfer: a model parser whose collapse is a Spec reader -/
def Refines {α : Type} (p : Bytes → PRes α) (q : Rd α) : Prop := ∀ i, (p i).toOpt = q i

theorem Refines.andThen {α β : Type} {p : Bytes → PRes α} {q : Rd α}
    {f : α → Bytes → PRes β} {g : α → Rd β}
    (h1 : Refines p q) (h2 : ∀ a, Refines (f a) (g a)) :
    Refines (fun i => (p i).andThen f) (q.andThen g) := by
  intro i
  rw [toOpt_andThen, h1 i]
  unfold Rd.andThen
  cases q i with
  | none => rfl
  | some x => exact h2 x.1 x.2

theorem Refines.map {α β : Type} {p : Bytes → PRes α} {q : Rd α} (f : α → β) (h : Refines p q) :
    Refines (fun i => (p i).map f) (q.map f) := by
  intro i
  rw [toOpt_map, h i]
  unfold Rd.map Rd.andThen Rd.pure
  cases q i <;> rfl

theorem Refines.pure {α : Type} (a : α) : Refines (fun i => PRes.ok a i) (Rd.pure a) := fun _ => rfl

theorem refines_uintN (e : Endian) (k : Nat) : Refines (uintN e k) (rdNum e k) := by
  intro i
  unfold uintN rdNum Rd.map Rd.andThen Rd.pure rd
  by_cases h : i.length < k
  · have h' : ¬ k ≤ i.length := Nat.not_le.2 h
    simp [h, h', PRes.toOpt]
  · have h' : k ≤ i.length := Nat.le_of_not_lt h
    simp [h, h', PRes.toOpt, num_eq]

theorem refines_bitsN (e : Endian) (k : Nat) :
    Refines (bitsN e k) ((rdNum e k).map (BitVec.ofNat (8 * k))) :=
  Refines.map _ (refines_uintN e k)

theorem refines_take (n : Nat) : Refines (take n) (rd n) := by
  intro i
  unfold take rd
  by_cases h : i.length < n
  · have h' : ¬ n ≤ i.length := Nat.not_le.2 h
    simp [h, h', PRes.toOpt]
  · have h' : n ≤ i.length := Nat.le_of_not_lt h
    simp [h, h', PRes.toOpt]

theorem refines_beU8 : Refines beU8 ((rd 1).map fun b => b.headD 0#8) := by
  intro i
  cases i with
  | nil => rfl
  | cons b r => simp [beU8, PRes.toOpt, Rd.map, Rd.andThen, Rd.pure, rd]

theorem fieldText_eq (b : Bytes) :
    Utf8.validPrefix (b.takeWhile (fun x => !isNul x)) = fieldText b := by
  unfold fieldText
  congr 2

theorem refines_zts (n : Nat) : Refines (zts n) (rdText n) := by
  intro i
  unfold rdText Rd.map Rd.andThen Rd.pure rd
  by_cases h : n ≤ i.length
  · rw [zts_ok n i h]
    simp [h, PRes.toOpt, fieldText_eq]
  · obtain ⟨hint, hh, _⟩ := zts_short_some n i (Nat.lt_of_not_le h)
    rw [hh]
    simp [h, PRes.toOpt]

theorem refines_if {α : Type} (c : Bool) {p1 p2 : Bytes → PRes α} {q1 q2 : Rd α}
    (h1 : Refines p1 q1) (h2 : Refines p2 q2) :
    Refines (fun i => if c then p1 i else p2 i) (if c then q1 else q2) := by
  cases c <;> simpa

theorem refines_varName (e : Endian) : Refines (dltVariableName e) (rdName e) := by
  unfold dltVariableName rdName
  exact Refines.andThen (refines_uintN e 2) (fun n => refines_zts n)

theorem refines_optName (e : Endian) (b : Bool) :
    Refines (fun i => if b then (dltVariableName e i).map some else .ok none i) (rdOptName e b) := by
  unfold rdOptName
  exact refines_if b (Refines.map some (refines_varName e)) (Refines.pure none)

theorem refines_nameUnit (e : Endian) (ti : TypeInfo) :
    Refines (dltVariableNameAndUnit e ti) (rdNameUnit e ti.hasVariableInfo) := by
  unfold dltVariableNameAndUnit rdNameUnit
  cases ti.hasVariableInfo
  · exact Refines.pure (none, none)
  · simp only [if_true]
    exact Refines.andThen (refines_uintN e 2) fun nl =>
      Refines.andThen (refines_uintN e 2) fun ul =>
      Refines.andThen (refines_zts nl) fun n =>
      Refines.andThen (refines_zts ul) fun u => Refines.pure (some n, some u)

theorem refines_fint (e : Endian) (w : FloatWidth) :
    Refines (dltFint e w)
      ((rdNum e w.bytes).map fun n =>
        (match w with | .w32 => Value.f32 (BitVec.ofNat 32 n) | .w64 => Value.f64 (BitVec.ofNat 64 n))) := by
  intro i
  rw [dltFint_eq]
  cases w <;> exact Refines.map _ (refines_uintN e _) i

theorem refines_fixedPoint (e : Endian) (w : FloatWidth) :
    Refines (dltFixedPoint e w) (rdFixedPoint e w) := by
  unfold dltFixedPoint rdFixedPoint
  intro i
  rw [toOpt_andThen, refines_bitsN e 4 i]
  dsimp only [Rd.map, Rd.andThen, Rd.pure]
  cases rdNum e 4 i with
  | none => rfl
  | some x =>
    obtain ⟨q, r⟩ := x
    cases w <;>
      (dsimp only
       rw [toOpt_map, refines_bitsN e _ r]
       dsimp only [Rd.map, Rd.andThen, Rd.pure]
       cases rdNum e _ r <;> rfl)

theorem refines_typeInfo (e : Endian) :
    Refines (dltTypeInfo e)
      ((rdNum e 4).andThen fun w => match tiDecode w with
        | some ti => Rd.pure ti
        | none => fun _ => none) := by
  intro i
  unfold dltTypeInfo
  rw [toOpt_andThen, refines_bitsN e 4 i]
  unfold rdNum Rd.map Rd.andThen Rd.pure rd
  by_cases h : 4 ≤ i.length
  · simp only [h, if_true]
    have hlt : num e (i.take 4) < 2 ^ 32 := by
      rw [num_eq]
      have := Endian.value_lt e (i.take 4)
      rw [List.length_take, Nat.min_eq_left h] at this
      exact this
    have hw : (BitVec.ofNat (8 * 4) (num e (i.take 4))).toNat = num e (i.take 4) := by
      rw [BitVec.toNat_ofNat]; exact Nat.mod_eq_of_lt hlt
    have := ofU32_eq_tiDecode (BitVec.ofNat (8 * 4) (num e (i.take 4)))
    rw [hw] at this
    rw [this]
    cases tiDecode (num e (i.take 4)) <;> rfl
  · simp [h]

theorem Rd.map_map {α β γ : Type} (q : Rd α) (g : α → β) (f : β → γ) (i : Bytes) :
    (q.map g).map f i = q.map (fun a => f (g a)) i := by
  unfold Rd.map Rd.andThen Rd.pure
  cases q i <;> rfl

/-- `Refines.map` against a Spec reader that is itself a `map` -/
theorem Refines.map_map {α β γ : Type} {p : Bytes → PRes β} {q : Rd α} {g : α → β} (f : β → γ)
    (h : Refines p (q.map g)) : Refines (fun i => (p i).map f) (q.map fun a => f (g a)) := by
  intro i
  rw [← Rd.map_map]
  exact Refines.map f h i

theorem refines_argument (e : Endian) : Refines (dltArgument e) (rdArgument e) := by
  intro i
  unfold dltArgument rdArgument
  rw [toOpt_andThen, refines_typeInfo e i]
  dsimp only [Rd.andThen]
  cases rdNum e 4 i with
  | none => rfl
  | some x =>
    obtain ⟨w, r⟩ := x
    dsimp only
    cases tiDecode w with
    | none => rfl
    | some ti =>
      dsimp only [Rd.pure]
      -- the value readers are number readers with a wrapper, as `rdInt` is on the Spec's side
      cases hk : ti.kind <;> simp only [dltSint_eq, dltUint_eq, andThen_ok_map]
      case bool =>
        exact (Refines.andThen (refines_optName e ti.hasVariableInfo) fun n =>
          Refines.map_map _ refines_beU8) r
      case signed l | unsigned l =>
        exact (Refines.andThen (refines_nameUnit e ti) fun nu =>
          Refines.map _ (Refines.map _ (refines_uintN e _))) r
      case signedFixedPoint fw | unsignedFixedPoint fw =>
        exact (Refines.andThen (refines_nameUnit e ti) fun nu =>
          Refines.andThen (refines_fixedPoint e fw) fun fp =>
          Refines.map _ (Refines.map _ (refines_uintN e _))) r
      case float fw =>
        exact (Refines.andThen (refines_nameUnit e ti) fun nu =>
          Refines.map_map _ (refines_fint e fw)) r
      case stringType =>
        exact (Refines.andThen (refines_uintN e 2) fun size =>
          Refines.andThen (refines_optName e ti.hasVariableInfo) fun n =>
          Refines.map _ (refines_zts size)) r
      case raw =>
        exact (Refines.andThen (refines_uintN e 2) fun size =>
          Refines.andThen (refines_optName e ti.hasVariableInfo) fun n =>
          Refines.map _ (refines_take size)) r

theorem refines_count (e : Endian) (n : Nat) :
    Refines (count (dltArgument e) n) (rdArguments e n) := by
  induction n with
  | zero => intro i; rfl
  | succ n ih =>
    show Refines (fun i => (dltArgument e i).andThen fun v r => (count (dltArgument e) n r).map (v :: ·))
      ((rdArgument e).andThen fun a => (rdArguments e n).map (a :: ·))
    exact Refines.andThen (refines_argument e) fun a => Refines.map _ ih

theorem fromValue_eq (sid : BitVec 8) :
    ControlType.fromValue sid
      = (if sid.toNat = 1 then .request else if sid.toNat = 2 then .response else .unknown sid) := by
  unfold ControlType.fromValue CTRL_TYPE_REQUEST CTRL_TYPE_RESPONSE
  by_cases h1 : sid = 1#8
  · subst h1; rfl
  · by_cases h2 : sid = 2#8
    · subst h2; rfl
    · have n1 : sid.toNat ≠ 1 := fun h => h1 (BitVec.eq_of_toNat_eq h)
      have n2 : sid.toNat ≠ 2 := fun h => h2 (BitVec.eq_of_toNat_eq h)
      simp [h1, h2, n1, n2]

/-- the payload parser applied to the declared payload slice, failure classes collapsed, is
    the Spec's payload decoder -/
theorem payload_refines (e : Endian) (vb : Bool) (argc : Nat) (mt : Option MessageType)
    (slice : Bytes) :
    (dltPayload e slice vb slice.length argc mt).toOpt.map (·.1)
      = decodePayloadWith e vb argc mt slice := by
  unfold dltPayload decodePayloadWith
  cases vb
  · rw [if_neg Bool.false_ne_true, if_neg Bool.false_ne_true]
    have hnv : ((if slice.length < 4 then PRes.failure
          else (bitsN e 4 slice).andThen fun messageId i =>
            (take (slice.length - 4) i).andThen fun payload rest =>
              .ok (PayloadContent.nonVerbose messageId payload) rest).toOpt.map (·.1))
        = (if slice.length < 4 then none
           else some (PayloadContent.nonVerbose (BitVec.ofNat 32 (num e (slice.take 4))) (slice.drop 4))) := by
      by_cases h4 : slice.length < 4
      · simp [h4, PRes.toOpt]
      · simp only [h4, if_false]
        simp only [bitsN, uintN, h4, if_false, PRes.map_ok, PRes.andThen_ok, take, List.length_drop]
        have : ¬ slice.length - 4 < slice.length - 4 := Nat.lt_irrefl _
        simp [this, PRes.toOpt, num_eq, List.take_of_length_le]
    cases mt with
    | none => exact hnv
    | some t =>
      cases t with
      | control c =>
        cases slice with
        | nil => simp [PRes.toOpt]
        | cons sid rest =>
          simp [beU8Complete, take, PRes.toOpt, fromValue_eq, List.take_of_length_le]
      | _ => exact hnv
  · rw [if_pos rfl, if_pos rfl]
    have hcount := refines_count e argc slice
    cases hc : count (dltArgument e) argc slice with
    | ok args rest =>
      rw [hc] at hcount
      simp only [PRes.toOpt] at hcount
      rw [← hcount]
      dsimp only
      cases mt with
      | none => rfl
      | some t => cases t <;> rfl
    | _ => rw [hc] at hcount; simp only [PRes.toOpt] at hcount; rw [← hcount]; rfl

end Dlt
