/-
  C11, layer L1 and the first half of L2 of Model/Fibex.lean: the reader (`Reader::read_event`,
  `read_pdu`, `read_frame`, the file loop of `read_fibexes`) run on the rendering of abstract documents accumulates exactly
  `accOf` of their elements.
-/
import DltVerif.Lemmas.FibexBuild
import DltVerif.Lemmas.FibexLoops

namespace Dlt.Fibex
open Dlt.Fibex.Spec

def digitByte (c : Char) : BitVec 8 := BitVec.ofNat 8 c.toNat

theorem ofDigitChars_ge (l : List Char) (init : Nat) : init ≤ Nat.ofDigitChars 10 l init := by
  rw [Nat.ofDigitChars_eq_ofDigitChars_zero]
  have : 1 ≤ 10 ^ l.length := Nat.pow_pos (Nat.zero_lt_succ _)
  calc init = 1 * init := (Nat.one_mul _).symm
    _ ≤ 10 ^ l.length * init := Nat.mul_le_mul_right _ this
    _ ≤ _ := Nat.le_add_right _ _

theorem digit_range {c : Char} (h : c.isDigit = true) : 48 ≤ c.toNat ∧ c.toNat ≤ 57 := by
  simp only [Char.isDigit, Bool.and_eq_true, decide_eq_true_eq] at h
  exact ⟨UInt32.le_iff_toNat_le.mp h.1, UInt32.le_iff_toNat_le.mp h.2⟩

theorem parseDigits_digits (l : List Char) (acc : Nat) (hd : ∀ c ∈ l, c.isDigit = true)
    (hlt : Nat.ofDigitChars 10 l acc < 2 ^ 64) :
    parseDigits (l.map digitByte) acc = some (Nat.ofDigitChars 10 l acc) := by
  induction l generalizing acc with
  | nil => simp [parseDigits]
  | cons c cs ih =>
    obtain ⟨h1, h2⟩ := digit_range (hd c (List.mem_cons_self ..))
    have hb : (digitByte c).toNat = c.toNat := by
      simp only [digitByte, BitVec.toNat_ofNat]; omega
    rw [Nat.ofDigitChars_cons] at hlt ⊢
    have hacc : acc * 10 + (c.toNat - 0x30) = 10 * acc + (c.toNat - '0'.toNat) := by
      simp only [Char.reduceToNat]; rw [Nat.mul_comm]
    have hge := ofDigitChars_ge cs (10 * acc + (c.toNat - '0'.toNat))
    simp only [List.map_cons, parseDigits, hb]
    rw [if_pos ⟨h1, h2⟩]
    simp only [hacc]
    rw [if_pos (Nat.lt_of_le_of_lt hge hlt)]
    exact ih _ (fun c hc => hd c (List.mem_cons_of_mem _ hc)) hlt

theorem parseUsize_digits (n : Nat) (h : n < 2 ^ 64) : parseUsize (digits n) = some n := by
  have hd : ∀ c ∈ Nat.toDigits 10 n, c.isDigit = true :=
    fun c hc => Nat.isDigit_of_mem_toDigits (by omega) (by omega) hc
  have hp := parseDigits_digits (Nat.toDigits 10 n) 0 hd
  rw [Nat.ofDigitChars_toDigits (by omega) (by omega)] at hp
  change parseUsize ((Nat.toDigits 10 n).map digitByte) = _
  cases hl : Nat.toDigits 10 n with
  | nil => exact absurd hl Nat.toDigits_ne_nil
  | cons c cs =>
    have := digit_range (hd c (hl ▸ List.mem_cons_self ..))
    have hne : digitByte c ≠ 0x2B#8 := fun heq => by
      have := congrArg BitVec.toNat heq
      simp only [digitByte, BitVec.toNat_ofNat] at this
      omega
    rw [hl] at hp
    simpa only [List.map_cons, parseUsize, hne, if_false] using hp h

theorem digits_ne_nil (n : Nat) : digits n ≠ [] :=
  fun h => Nat.toDigits_ne_nil (List.map_eq_nil_iff.mp (h : (Nat.toDigits 10 n).map digitByte = []))

theorem attrReq_id (id : Bytes) : attrReq B_ID (idAttr id) = .ok id := by
  simp [attrReq, attrOpt, idAttr, keyMatches]

theorem attrReq_idRef (r : Bytes) : attrReq B_ID_REF (idRefAttr r) = .ok r := by
  simp [attrReq, attrOpt, idRefAttr, keyMatches]

theorem attrReq_baseDataType (b : Bytes) :
    attrReq B_BASE_DATA_TYPE [.ok HO_BASE_DATA_TYPE (some b), .ok CATEGORY (some STANDARD_LENGTH_TYPE)]
      = .ok b := by
  have : keyMatches HO_BASE_DATA_TYPE B_BASE_DATA_TYPE = some true := by decide
  simp [attrReq, attrOpt, this]

theorem readEvent_sigInst (st : RState) (i : Inst) (rest : List XmlEv) (h : i.wf = true) :
    readEvent st (renderSigInst i ++ rest)
      = (.ok (.signalInstance i.id i.seq i.ref),
         { st with id := none, sequenceNumber := none, ref := none }, rest) := by
  have hp := parseUsize_digits i.seq (by simpa [Inst.wf] using h)
  cases hr : i.refFirst <;>
    simp [renderSigInst, hr, textElem, digits_ne_nil, readEvent, readText, attrReq_id, attrReq_idRef, hp]

theorem readEvent_pduInst (st : RState) (i : Inst) (rest : List XmlEv) (h : i.wf = true) :
    readEvent st (renderPduInst i ++ rest)
      = (.ok (.pduInstance i.id i.ref i.seq),
         { st with id := none, sequenceNumber := none, ref := none }, rest) := by
  have hp := parseUsize_digits i.seq (by simpa [Inst.wf] using h)
  cases hr : i.refFirst <;>
    simp [renderPduInst, hr, textElem, digits_ne_nil, readEvent, readText, attrReq_id, attrReq_idRef, hp]

theorem readPdu_insts (insts : List Inst) (hw : insts.all Inst.wf = true) (bl : Nat)
    (d : Option Bytes) (rest : List XmlEv) :
    ∀ (st : RState) (acc : List (Nat × Bytes)), st.byteLength = some bl → st.description = d →
    ∃ st', readPdu st ((insts.map renderSigInst).flatten ++ (.end_ .other :: .end_ .PDU :: rest)) acc
      = (.ok (d, (sortByKey (acc ++ insts.map fun i => (i.seq, i.ref))).map (·.2)), st', rest) := by
  induction insts with
  | nil =>
    intro st acc hb hd
    refine ⟨{ st with shortName := none, description := none, byteLength := none }, ?_⟩
    rw [readPdu_step]
    simp [readEvent, hb, hd]
  | cons i insts ih =>
    intro st acc hb hd
    simp only [List.all_cons, Bool.and_eq_true] at hw
    simp only [List.map_cons, List.flatten_cons, List.append_assoc]
    rw [readPdu_step, readEvent_sigInst st i _ hw.1]
    obtain ⟨st', h'⟩ := ih hw.2 { st with id := none, sequenceNumber := none, ref := none }
      (acc ++ [(i.seq, i.ref)]) hb hd
    exact ⟨st', by simp only []; rw [h']; simp⟩

theorem OTHER_ne_nil : OTHER ≠ [] := by decide

theorem readEvent_head (sn desc : Option Bytes) (hsn : optNonEmpty sn = true) (bl : Nat)
    (hbl : bl < 2 ^ 64) (st : RState) (h1 : st.shortName = none) (Y : List XmlEv) :
    readEvent st (optText .SHORT_NAME sn ++ (optText .DESC desc ++
        (textElem .BYTE_LENGTH (digits bl) ++ Y)))
      = readEvent { st with shortName := sn, byteLength := some bl
                            description := match desc with
                              | none => st.description
                              | some d => if d = [] then none else some d } Y := by
  have hp := parseUsize_digits bl hbl
  obtain ⟨sn0, d0, b0, i0, q0, r0, a0, c0, mt0, mi0, bd0⟩ := st
  simp only at h1
  subst h1
  rcases sn with _ | s <;> rcases desc with _ | d <;> simp [optNonEmpty] at hsn <;>
    (try by_cases hd : d = []) <;>
    simp [optText, textElem, digits_ne_nil, readEvent, readText, *]

theorem readEvent_type (ty : Tag) (hty : ty = .PDU_TYPE ∨ ty = .FRAME_TYPE) (st : RState)
    (Y : List XmlEv) : readEvent st (textElem ty OTHER ++ Y) = readEvent st Y := by
  rcases hty with rfl | rfl <;> simp [textElem, OTHER_ne_nil, readEvent, readText]

/-- `.tail`: the file loop has read the start tag -/
theorem readPdu_render (p : PduDoc) (hw : p.wf = true) (st : RState) (h1 : st.shortName = none)
    (h2 : st.description = none) (rest : List XmlEv) :
    ∃ st', readPdu st (renderPdu p ++ rest).tail [] = (.ok (descOf p, ordered p.signals), st', rest) := by
  simp only [PduDoc.wf, Bool.and_eq_true, decide_eq_true_eq] at hw
  have hD : (match p.desc with | none => st.description | some d => if d = [] then none else some d)
      = descOf p := by cases h : p.desc <;> simp [descOf, h, h2]
  simp only [renderPdu, List.append_assoc, List.cons_append, List.nil_append, List.tail_cons]
  -- `renderPdu` writes the optional children as `match`: that is `optText`, up to unfolding
  change ∃ st', readPdu st (optText .SHORT_NAME p.shortName ++ (optText .DESC p.desc ++ _)) [] = _
  rw [readPdu_step, readEvent_head _ _ hw.1.1 _ hw.1.2 _ h1, readEvent_type _ (.inl rfl), hD]
  by_cases hs : p.signals = []
  · simp [hs, readEvent, ordered, sortByKey]
  · simp only [hs, if_false, List.cons_append, List.append_assoc, readEvent]
    rw [← readPdu_step]
    simpa [ordered] using readPdu_insts p.signals hw.2 p.byteLength (descOf p) rest _ [] rfl rfl

/-- `X` stands for what follows the instances, read in a state that still carries the frame's
    short name and byte length -/
theorem readFrame_insts (insts : List Inst) (hw : insts.all Inst.wf = true) (X rest : List XmlEv)
    (res : List (Nat × Bytes) → FrameReadData) (sn : Bytes) (bl : Nat)
    (hX : ∀ st acc, st.shortName = some sn → st.byteLength = some bl →
      ∃ st', readFrame st X acc {} = (.ok (res acc), st', rest)) :
    ∀ st acc, st.shortName = some sn → st.byteLength = some bl →
      ∃ st', readFrame st ((insts.map renderPduInst).flatten ++ X) acc {}
        = (.ok (res (acc ++ insts.map fun i => (i.seq, i.ref))), st', rest) := by
  induction insts with
  | nil => intro st acc hs hb; simpa using hX st acc hs hb
  | cons i insts ih =>
    intro st acc hs hb
    simp only [List.all_cons, Bool.and_eq_true] at hw
    simp only [List.map_cons, List.flatten_cons, List.append_assoc]
    rw [readFrame_step, readEvent_pduInst st i _ hw.1]
    simpa using
      ih hw.2 { st with id := none, sequenceNumber := none, ref := none } (acc ++ [(i.seq, i.ref)]) hs hb

/-- the end tag of the instances and the MANUFACTURER-EXTENSION block behind it -/
theorem readEvent_ext (x : ExtDoc) (hw : x.wf = true) (st : RState) (X : List XmlEv) :
    readEvent st (.end_ .other :: .start .MANUFACTURER_EXTENSION [] :: (optText .MESSAGE_TYPE x.messageType ++
        (optText .MESSAGE_INFO x.messageInfo ++ (optText .APPLICATION_ID x.applicationId ++
        (optText .CONTEXT_ID x.contextId ++ .end_ .MANUFACTURER_EXTENSION :: X)))))
      = (.ok (.manufacturerExtension x.messageType x.messageInfo x.applicationId x.contextId),
         { st with applicationId := none, contextId := none, messageType := none, messageInfo := none },
         X) := by
  obtain ⟨mt, mi, app, ctx⟩ := x
  simp only [ExtDoc.wf, Bool.and_eq_true] at hw
  obtain ⟨⟨⟨h1, h2⟩, h3⟩, h4⟩ := hw
  rcases mt with _ | mt <;> rcases mi with _ | mi <;> rcases app with _ | app <;> rcases ctx with _ | ctx <;>
    simp [optNonEmpty] at h1 h2 h3 h4 <;>
    simp [optText, textElem, readEvent, readText, h1, h2, h3, h4]

theorem readFrame_render (f : FrameDoc) (hw : f.wf = true) (st : RState) (h1 : st.shortName = none)
    (rest : List XmlEv) :
    ∃ st', readFrame st (renderFrame f ++ rest).tail [] {} = (.ok (frameReadOf f), st', rest) := by
  simp only [FrameDoc.wf, Bool.and_eq_true, decide_eq_true_eq] at hw
  obtain ⟨⟨⟨hsn, hbl⟩, hpd⟩, hext⟩ := hw
  have hres : frameReadOf f
      = { frameReadOf f with pduRefs := (sortByKey ([] ++ f.pdus.map fun i => (i.seq, i.ref))).map (·.2) } := by
    simp [frameReadOf, ordered]
  rw [hres]
  simp only [renderFrame, List.append_assoc, List.cons_append, List.nil_append, List.tail_cons]
  change ∃ st', readFrame st (optText .SHORT_NAME (some f.shortName) ++ (optText .DESC f.desc ++ _)) [] {} = _
  rw [readFrame_step, readEvent_head _ _ (by simpa [optNonEmpty] using hsn) _ hbl _ h1,
    readEvent_type _ (.inr rfl)]
  simp only [readEvent]
  rw [← readFrame_step]
  refine readFrame_insts f.pdus hpd _ rest (fun acc => { frameReadOf f with pduRefs := (sortByKey acc).map (·.2) })
    f.shortName f.byteLength (fun st acc hs hb => ?_) _ [] rfl rfl
  rw [readFrame_step]
  cases hx : f.ext with
  | none => simp [readEvent, hs, hb, frameReadOf, hx]
  | some x =>
    rw [hx] at hext
    simp only [List.append_assoc, List.cons_append, List.nil_append]
    rw [readEvent_ext x hext]
    simp only []
    rw [readFrame_step]
    simp [readEvent, hs, hb, frameReadOf, hx]

def accStep (acc : Acc) : Elem → Acc
  | .pdu p => { acc with pdus := acc.pdus ++ [(p.id, (descOf p, ordered p.signals))] }
  | .frame f => { acc with frames := acc.frames ++ [(f.id, frameReadOf f)] }
  | .signal id c => { acc with signals := insertKV acc.signals id c }
  | .coding id b => { acc with codings := insertKV acc.codings id b }

theorem readFile_renderElem (e : Elem) (hw : e.wf = true) (st : RState) (acc : Acc) (rest : List XmlEv) :
    ∃ st', readFile st (renderElem e ++ rest) acc = readFile st' rest (accStep acc e) := by
  cases e with
  | pdu p =>
    obtain ⟨st', h⟩ := readPdu_render p hw
      { st with shortName := none, byteLength := none, description := none } rfl rfl rest
    refine ⟨st', ?_⟩
    rw [readFile_step]
    simp only [renderElem, renderPdu, List.append_assoc, List.cons_append, List.nil_append, List.tail_cons,
      readEvent, attrReq_id] at h ⊢
    rw [h]
    rfl
  | frame f =>
    obtain ⟨st', h⟩ := readFrame_render f hw { st with shortName := none, byteLength := none } rfl rest
    refine ⟨st', ?_⟩
    rw [readFile_step]
    simp only [renderElem, renderFrame, List.append_assoc, List.cons_append, List.nil_append, List.tail_cons,
      readEvent, attrReq_id] at h ⊢
    rw [h]
    rfl
  | signal id c =>
    have hw : id ≠ [] := by simpa [Elem.wf] using hw
    refine ⟨{ st with shortName := some id, id := none, ref := none }, ?_⟩
    rw [readFile_step]
    simp [renderElem, textElem, hw, readEvent, readText, attrReq_id, attrReq_idRef, accStep]
  | coding id b =>
    have hw : id ≠ [] := by simpa [Elem.wf] using hw
    refine ⟨{ st with shortName := some id, id := none, baseDataType := none }, ?_⟩
    rw [readFile_step]
    simp [renderElem, textElem, hw, readEvent, readText, attrReq_id, attrReq_baseDataType, accStep]

theorem readFile_elems (d : List Elem) (hw : d.all Elem.wf = true) (rest : List XmlEv) :
    ∀ (st : RState) (acc : Acc),
    ∃ st', readFile st ((d.map renderElem).flatten ++ rest) acc = readFile st' rest (d.foldl accStep acc) := by
  induction d with
  | nil => intro st acc; exact ⟨st, rfl⟩
  | cons e d ih =>
    intro st acc
    simp only [List.all_cons, Bool.and_eq_true] at hw
    simp only [List.map_cons, List.flatten_cons, List.append_assoc]
    obtain ⟨st1, h1⟩ := readFile_renderElem e hw.1 st acc ((d.map renderElem).flatten ++ rest)
    obtain ⟨st2, h2⟩ := ih hw.2 st1 (accStep acc e)
    exact ⟨st2, h1.trans h2⟩

theorem readFile_render (d : FileDoc) (hw : d.all Elem.wf = true) (acc : Acc) :
    readFile {} (render d) acc = .ok (d.foldl accStep acc) := by
  obtain ⟨st', h⟩ := readFile_elems d hw [.end_ .other, .end_ .other] {} acc
  rw [readFile_step]
  simp only [render, List.cons_append, List.nil_append, readEvent]
  rw [← readFile_step, h, readFile_step]
  simp [readEvent]

theorem readFiles_render (files : List FileDoc) (hw : ∀ d ∈ files, d.all Elem.wf = true) (acc : Acc) :
    readFiles (files.map fun d => some (render d)) acc = .ok (files.flatten.foldl accStep acc) := by
  induction files generalizing acc with
  | nil => rfl
  | cons d files ih =>
    simp only [List.map_cons, readFiles, List.flatten_cons]
    rw [readFile_render d (hw d (List.mem_cons_self ..))]
    simp only []
    rw [ih (fun d' h => hw d' (List.mem_cons_of_mem _ h)), List.foldl_append]

theorem foldl_accStep (es : List Elem) (acc : Acc) :
    es.foldl accStep acc
      = { pdus := acc.pdus ++ (pdusOf es).map fun p => (p.id, (descOf p, ordered p.signals))
          frames := acc.frames ++ (framesOf es).map fun f => (f.id, frameReadOf f)
          signals := insertAll (signalsOf es) acc.signals
          codings := insertAll (codingsOf es) acc.codings } := by
  induction es generalizing acc with
  | nil => simp [pdusOf, framesOf, signalsOf, codingsOf, insertAll]
  | cons e es ih =>
    rw [List.foldl_cons, ih]
    cases e <;> simp only [accStep, pdusOf, framesOf, signalsOf, codingsOf, insertAll, List.filterMap_cons,
      List.map_cons, List.foldl_cons, List.append_assoc, List.cons_append, List.nil_append]

theorem foldl_accStep_empty (es : List Elem) : es.foldl accStep {} = accOf es := by
  rw [foldl_accStep]; simp [accOf]

end Dlt.Fibex
