/-
  What the slice parsers return on ARBITRARY bytes, by one walk per parser.

  `p.Sat Q` says of an outcome `p` that it is not the panic outcome and that, if it is a success
  `ok v r`, then `Q v r`.  It is closed under `andThen` / `map` / `count`, so a parser written
  as a chain of `andThen`s is handled by chaining `Sat.andThen` along it; "never panics"
  (`Sat.ne_panic`) and every fact about the returned value (`Sat.of_ok`) are then read off the
  same lemma.

  Namespace `ParserImage` (continued in Lemmas/ParserImage.lean) holds the vocabulary these facts
  are stated in and the `_sat` lemmas that use it: `Consumes i r k` (`r` is `i` behind exactly `k`
  bytes), `ArgImage` and `PayloadImage` (all a successful `dlt_argument` / `dlt_payload` tells).
  `argCost`: every argument occupies at least 5 bytes, a raw one 6 + its data; a network-trace
  payload re-serialises to the raw data alone, so the recorded length leaves no room for others.
-/
import DltVerif.Lemmas.Takes
import DltVerif.Lemmas.TypeInfoWord
import DltVerif.Lemmas.Codes
import DltVerif.Model.Decode
import DltVerif.Lemmas.Payload

namespace Dlt

def PRes.Sat {α : Type} (p : PRes α) (Q : α → Bytes → Prop) : Prop :=
  match p with
  | .ok v r => Q v r
  | .panic => False
  | _ => True

namespace PRes.Sat

variable {α β : Type} {p : PRes α} {P Q : α → Bytes → Prop}

theorem ok {v : α} {r : Bytes} (h : Q v r) : (PRes.ok v r).Sat Q := h

theorem of_ok {v : α} {r : Bytes} (hp : p.Sat Q) (h : p = .ok v r) : Q v r := by
  subst h; exact hp

theorem ne_panic (hp : p.Sat Q) : p ≠ .panic := by
  intro h; subst h; exact hp

theorem andThen {f : α → Bytes → PRes β} {Q : β → Bytes → Prop} (hp : p.Sat P)
    (hf : ∀ v r, P v r → (f v r).Sat Q) : (p.andThen f).Sat Q := by
  cases p with
  | ok v r => exact hf v r hp
  | panic => exact hp
  | _ => trivial

theorem map {f : α → β} {Q : β → Bytes → Prop} (hp : p.Sat P)
    (hf : ∀ v r, P v r → Q (f v) r) : (p.map f).Sat Q := by
  cases p with
  | ok v r => exact hf v r hp
  | panic => exact hp
  | _ => trivial

theorem mono (hp : p.Sat P) (h : ∀ v r, P v r → Q v r) : p.Sat Q := by
  cases p with
  | ok v r => exact h v r hp
  | panic => exact hp
  | _ => trivial

end PRes.Sat

theorem andThen_ok_inv {α β : Type} {p : PRes α} {f : α → Bytes → PRes β} {b : β} {r : Bytes}
    (h : p.andThen f = .ok b r) : ∃ v r', p = .ok v r' ∧ f v r' = .ok b r := by
  cases p with
  | ok v r' => exact ⟨v, r', rfl, h⟩
  | _ => cases h

theorem map_ok_inv {α β : Type} {p : PRes α} {f : α → β} {b : β} {r : Bytes}
    (h : p.map f = .ok b r) : ∃ v, p = .ok v r ∧ b = f v := by
  cases p with
  | ok v r' =>
    injection h with h1 h2
    exact ⟨v, by rw [h2], h1.symm⟩
  | _ => cases h

theorem PRes.map_map {α β γ : Type} (p : PRes α) (f : α → β) (g : β → γ) :
    (p.map f).map g = p.map fun a => g (f a) := by
  cases p <;> rfl

theorem andThen_ok_map {α β : Type} (p : PRes α) (f : α → β) :
    (p.andThen fun v r => .ok (f v) r) = p.map f := by cases p <;> rfl

theorem PRes.toResult_eq_ok_iff {α : Type} {p : PRes α} {v : α} {r : Bytes} :
    p.toResult = .ok (v, r) ↔ p = .ok v r := by
  cases p <;> simp [PRes.toResult]

theorem toResult_ne_panic {α : Type} {p : PRes α} (h : p ≠ .panic) :
    p.toResult ≠ .error .panic := by
  cases p <;> simp_all [PRes.toResult]

/-! `dlt_uint`, `dlt_sint` and `dlt_fint` read `w.bytes` bytes as one number and wrap it. -/

theorem dltUint_eq (e : Endian) (w : TypeLength) (i : Bytes) :
    dltUint e w i = (uintN e w.bytes i).map (Spec.intValue false w) := by
  cases w <;> simp only [dltUint, bitsN, beU8_eq_uintN e, PRes.map_map] <;> rfl

theorem dltSint_eq (e : Endian) (w : TypeLength) (i : Bytes) :
    dltSint e w i = (uintN e w.bytes i).map (Spec.intValue true w) := by
  cases w <;> simp only [dltSint, bitsN, beU8_eq_uintN e, PRes.map_map] <;> rfl

theorem dltFint_eq (e : Endian) (w : FloatWidth) (i : Bytes) :
    dltFint e w i = (uintN e w.bytes i).map fun n =>
      match w with | .w32 => Value.f32 (BitVec.ofNat 32 n) | .w64 => Value.f64 (BitVec.ofNat 64 n) := by
  cases w <;> simp only [dltFint, bitsN, PRes.map_map] <;> rfl

theorem dltFixedPoint_takes (e : Endian) (w : FloatWidth) :
    Takes (4 + w.bytes) (dltFixedPoint e w) fun fp =>
      (w = .w32 ∧ ∃ q x, fp = ⟨q, .i32 x⟩) ∨ (w = .w64 ∧ ∃ q x, fp = ⟨q, .i64 x⟩) := by
  cases w
  · exact (bitsN_takes e 4).bind fun q _ =>
      (bitsN_takes e 4).map _ fun x _ => Or.inl ⟨rfl, q, x, rfl⟩
  · exact (bitsN_takes e 4).bind fun q _ =>
      (bitsN_takes e 8).map _ fun x _ => Or.inr ⟨rfl, q, x, rfl⟩

namespace ParserImage

/-- `r` is what is left of `i` after exactly `k` bytes -/
def Consumes (i r : Bytes) (k : Nat) : Prop := k ≤ i.length ∧ r = i.drop k

theorem Consumes.refl (i : Bytes) : Consumes i i 0 := ⟨Nat.zero_le _, rfl⟩

theorem Consumes.trans {i r s : Bytes} {k l : Nat} (h1 : Consumes i r k) (h2 : Consumes r s l) :
    Consumes i s (k + l) := by
  obtain ⟨a1, a2⟩ := h1
  obtain ⟨b1, b2⟩ := h2
  subst a2
  rw [List.length_drop] at b1
  exact ⟨Nat.add_le_of_le_sub' a1 b1, by rw [b2, List.drop_drop]⟩

theorem Consumes.split {i r : Bytes} {k : Nat} (h : Consumes i r k) :
    ∃ c, i = c ++ r ∧ c.length = k := by
  obtain ⟨a1, a2⟩ := h
  subst a2
  exact ⟨i.take k, (List.take_append_drop k i).symm, List.length_take_of_le a1⟩

theorem Consumes.length {i r : Bytes} {k : Nat} (h : Consumes i r k) : r.length + k = i.length := by
  obtain ⟨a1, a2⟩ := h
  subst a2
  rw [List.length_drop, Nat.sub_add_cancel a1]

/-- what `Takes` knows, on arbitrary input: one walk over a chain of fixed-size readers serves the hint bound (C05)
    and the image facts (C03, C16) -/
theorem _root_.Dlt.Takes.sat {α : Type} {n : Nat} {p : Bytes → PRes α} {P : α → Prop}
    (h : Takes n p P) (i : Bytes) : (p i).Sat fun v r => Consumes i r n ∧ P v := by
  by_cases c : i.length < n
  · obtain ⟨k, hk, _⟩ := h.short c
    rw [hk]
    trivial
  · obtain ⟨v, hv, hp⟩ := h.long (Nat.le_of_not_lt c)
    rw [hv]
    exact ⟨⟨Nat.le_of_not_lt c, rfl⟩, hp⟩

theorem uintN_sat (e : Endian) (k : Nat) (i : Bytes) :
    (uintN e k i).Sat fun v r => Consumes i r k ∧ v < 256 ^ k :=
  (uintN_takes e k).sat i

theorem beU8Complete_sat (i : Bytes) : (beU8Complete i).Sat fun _ _ => True := by
  cases i <;> trivial

theorem take_sat (n : Nat) (i : Bytes) :
    (take n i).Sat fun v r => Consumes i r n ∧ v.length = n :=
  (take_takes n).sat i

theorem tag_sat (t i : Bytes) : (tag t i).Sat fun _ r => i = t ++ r := by
  cases h : tag t i with
  | ok v r => exact (tag_ok_inv h).1
  | panic =>
    unfold tag at h
    split at h
    · cases h
    · split at h <;> cases h
  | _ => trivial

theorem zts_sat (n : Nat) (i : Bytes) :
    (zts n i).Sat fun v r =>
      Consumes i r n ∧ noNul v = true ∧ Utf8.valid v = true ∧ v.length ≤ n :=
  (zts_takes n).sat i

theorem textOk_of {s : Bytes} {n : Nat} (h1 : noNul s = true) (h2 : Utf8.valid s = true)
    (h3 : s.length ≤ n) (hn : n + 1 ≤ 65535) : textOk s = true := by
  simp only [textOk, h1, h2, Bool.and_self, Bool.true_and, decide_eq_true_eq]
  exact Nat.le_trans (Nat.succ_le_succ h3) hn

theorem dltTypeInfo_sat (e : Endian) (i : Bytes) :
    (dltTypeInfo e i).Sat fun ti r => Consumes i r 4 ∧ ti.coding.canonical = true := by
  unfold dltTypeInfo
  refine ((bitsN_takes e 4).sat i).andThen fun info r ⟨hc, _⟩ => ?_
  cases ho : TypeInfo.ofU32 info with
  | none => trivial
  | some t => exact ⟨hc, ti_decode_canonical info t ho⟩

theorem dltVariableName_sat (e : Endian) (i : Bytes) :
    (dltVariableName e i).Sat fun v r =>
      ∃ n, Consumes i r (2 + n) ∧ noNul v = true ∧ Utf8.valid v = true ∧ v.length ≤ n :=
  (uintN_sat e 2 i).andThen fun n _ c1 =>
    (zts_sat n _).mono fun _ _ c2 => ⟨n, c1.1.trans c2.1, c2.2⟩

/-- the optional name of the bool / string / raw layouts; `k ≤ 65536` covers the 2 length bytes and
    the name, so that name + terminator fit 65535 as `textOk` asks -/
theorem optName_sat (e : Endian) (b : Bool) (i : Bytes) :
    (if b = true then (dltVariableName e i).map some else PRes.ok none i).Sat fun name r =>
      ∃ k, Consumes i r k ∧ (k ≤ 65536 → optText b name = true) := by
  cases b with
  | false => exact ⟨0, Consumes.refl _, fun _ => rfl⟩
  | true =>
    rw [if_pos rfl]
    exact (dltVariableName_sat e i).map fun v r ⟨n, c, t1, t2, t3⟩ =>
      ⟨2 + n, c, fun hk => textOk_of t1 t2 t3 (by omega)⟩

theorem dltVariableNameAndUnit_sat (e : Endian) (ti : TypeInfo) (i : Bytes) :
    (dltVariableNameAndUnit e ti i).Sat fun nu r =>
      ∃ k, Consumes i r k ∧ (k ≤ 65536 →
        optText ti.hasVariableInfo nu.1 = true ∧ optText ti.hasVariableInfo nu.2 = true) := by
  unfold dltVariableNameAndUnit
  cases ti.hasVariableInfo with
  | false => exact ⟨0, Consumes.refl _, fun _ => ⟨rfl, rfl⟩⟩
  | true =>
    rw [if_pos rfl]
    exact (uintN_sat e 2 i).andThen fun ns _ ⟨c1, _⟩ =>
      (uintN_sat e 2 _).andThen fun us _ ⟨c2, _⟩ =>
      (zts_sat ns _).andThen fun _ _ ⟨c3, n1, n2, n3⟩ =>
      (zts_sat us _).andThen fun _ _ ⟨c4, u1, u2, u3⟩ =>
        .ok ⟨2 + 2 + ns + us, ((c1.trans c2).trans c3).trans c4, fun hk =>
          ⟨textOk_of n1 n2 n3 (by omega), textOk_of u1 u2 u3 (by omega)⟩⟩

/-- a number reader with a wrapper, the shape of `dlt_uint`, `dlt_sint` and `dlt_fint` -/
theorem uintN_map_sat {α : Type} (e : Endian) (k : Nat) (g : Nat → α) (i : Bytes) :
    ((uintN e k i).map g).Sat fun v r => Consumes i r k ∧ ∃ n, v = g n :=
  (uintN_sat e k i).map fun n _ h => ⟨h.1, n, rfl⟩

/-- the least number of bytes an argument occupies -/
def argCost (a : Argument) : Nat :=
  match a.value with | .raw b => 6 + b.length | _ => 5

/-- everything a successful `dlt_argument` tells -/
def ArgImage (i : Bytes) (a : Argument) (r : Bytes) : Prop :=
  ∃ k, Consumes i r k
    ∧ argCost a ≤ k
    ∧ a.valid = true
    ∧ (i.length ≤ 65535 → a.wf = true)

/-- the five numeric layouts: type info, name and unit (`k1` bytes), then `k2 ≥ 1` bytes of
    fixed point and value; what remains per layout is that kind, value and fixed point form
    a numeric row of `Argument.wf` -/
theorem argImage_numeric {i i1 i2 r : Bytes} {ti : TypeInfo} {nu : Option Bytes × Option Bytes}
    {k1 k2 : Nat} {a : Argument} (c0 : Consumes i i1 4) (c1 : Consumes i1 i2 k1)
    (c2 : Consumes i2 r k2) (hk2 : 1 ≤ k2) (hcan : ti.coding.canonical = true)
    (t1 : k1 ≤ 65536 →
      optText ti.hasVariableInfo nu.1 = true ∧ optText ti.hasVariableInfo nu.2 = true)
    (hcost : argCost a = 5) (hvalid : a.valid = true)
    (hwf : a.wf = (ti.coding.canonical
      && (optText ti.hasVariableInfo nu.1 && optText ti.hasVariableInfo nu.2))) :
    ArgImage i a r := by
  have hl0 := c0.length
  have hl1 := c1.length
  refine ⟨_, (c0.trans c1).trans c2, by omega, hvalid, fun hl => ?_⟩
  obtain ⟨h1, h2⟩ := t1 (by omega)
  rw [hwf, hcan, h1, h2]
  rfl

theorem dltArgument_sat (e : Endian) (i : Bytes) : (dltArgument e i).Sat (ArgImage i) := by
  unfold dltArgument
  simp only [dltSint_eq, dltUint_eq, dltFint_eq]
  refine (dltTypeInfo_sat e i).andThen fun ti i1 ⟨c0, hcan⟩ => ?_
  have hl0 := c0.length
  obtain ⟨kind, coding, vari, trai⟩ := ti
  cases kind with
  | signed w | unsigned w | float w =>
    refine (dltVariableNameAndUnit_sat e _ i1).andThen fun nu i2 ⟨k1, c1, t1⟩ => ?_
    refine (uintN_map_sat e _ _ i2).andThen fun v r ⟨c2, n, hv⟩ => .ok ?_
    subst hv
    cases w <;> exact argImage_numeric c0 c1 c2 (by decide) hcan t1 rfl rfl rfl
  | signedFixedPoint w | unsignedFixedPoint w =>
    refine (dltVariableNameAndUnit_sat e _ i1).andThen fun nu i2 ⟨k1, c1, t1⟩ => ?_
    refine ((dltFixedPoint_takes e w).sat i2).andThen fun fp i3 ⟨c2, hf⟩ => ?_
    refine (uintN_map_sat e _ _ i3).andThen fun v r ⟨c3, n, hv⟩ => .ok ?_
    subst hv
    rcases hf with ⟨rfl, q, y, rfl⟩ | ⟨rfl, q, y, rfl⟩ <;>
      exact argImage_numeric c0 c1 (c2.trans c3) (by decide) hcan t1 rfl rfl rfl
  | raw =>
    refine (uintN_sat e 2 i1).andThen fun cnt i2 ⟨c1, hcnt⟩ => ?_
    refine (optName_sat e vari i2).andThen fun name i3 ⟨k2, c2, t2⟩ => ?_
    refine (take_sat cnt i3).andThen fun bytes r ⟨c3, hb⟩ => .ok ?_
    have hl1 := c1.length
    have hl2 := c2.length
    have hl3 := c3.length
    refine ⟨_, ((c0.trans c1).trans c2).trans c3, by simp only [argCost]; omega,
      rfl, fun hl => ?_⟩
    simp only [Argument.wf, hcan, t2 (by omega), Bool.true_and, Option.isNone_none,
      decide_eq_true_eq]
    omega
  | bool =>
    refine (optName_sat e vari i1).andThen fun name i2 ⟨k1, c1, t1⟩ => ?_
    refine (beU8_takes.sat i2).andThen fun b r ⟨c2, _⟩ => .ok ?_
    have hl1 := c1.length
    refine ⟨_, (c0.trans c1).trans c2, by simp only [argCost]; omega,
      rfl, fun hl => ?_⟩
    simp only [Argument.wf, hcan, t1 (by omega), Bool.true_and, Option.isNone_none]
  | stringType =>
    refine (uintN_sat e 2 i1).andThen fun size i2 ⟨c1, _⟩ => ?_
    refine (optName_sat e vari i2).andThen fun name i3 ⟨k2, c2, t2⟩ => ?_
    refine (zts_sat size i3).andThen fun s r ⟨c3, s1, s2, s3⟩ => .ok ?_
    have hl1 := c1.length
    have hl2 := c2.length
    have hl3 := c3.length
    refine ⟨_, ((c0.trans c1).trans c2).trans c3, by simp only [argCost]; omega,
      rfl, fun hl => ?_⟩
    simp only [Argument.wf, hcan, t2 (by omega), Bool.true_and, Option.isNone_none,
      textOk_of s1 s2 s3 (by omega)]

theorem count_sat {α : Type} {f : Bytes → PRes α} {cost : α → Nat} {P W : α → Prop} {N : Nat}
    (hf : ∀ i, (f i).Sat fun a r =>
      ∃ k, Consumes i r k ∧ cost a ≤ k ∧ P a ∧ (i.length ≤ N → W a)) (n : Nat) (i : Bytes) :
    (count f n i).Sat fun as r =>
      as.length = n ∧ ∃ k, Consumes i r k ∧ (as.map cost).sum ≤ k
        ∧ (∀ a ∈ as, P a) ∧ (i.length ≤ N → ∀ a ∈ as, W a) := by
  induction n generalizing i with
  | zero => exact ⟨rfl, 0, Consumes.refl _, Nat.le_refl _, nofun, fun _ => nofun⟩
  | succ n ih =>
    refine (hf i).andThen fun a r1 ⟨k1, c1, hk1, hp, hw⟩ => ?_
    have hl1 := c1.length
    refine (ih r1).map fun as r ⟨p1, k2, c2, hk2, hps, hws⟩ => ?_
    refine ⟨by rw [List.length_cons, p1], k1 + k2, c1.trans c2,
      by rw [List.map_cons, List.sum_cons]; exact Nat.add_le_add hk1 hk2, ?_, fun hl => ?_⟩
    · exact List.forall_mem_cons.2 ⟨hp, hps⟩
    · exact List.forall_mem_cons.2 ⟨hw hl, hws (Nat.le_of_add_right_le (hl1 ▸ hl))⟩


/-- everything a successful `dlt_payload` on the slice `pb` tells -/
def PayloadImage (pb : Bytes) (vb : Bool) (argc : Nat) (mt : Option MessageType) :
    PayloadContent → Prop
  | .verbose args =>
    vb = true ∧ mt.any (·.isNetworkTrace) = false ∧ args.length = argc
      ∧ (∀ a ∈ args, a.valid = true) ∧ (pb.length ≤ 65535 → ∀ a ∈ args, a.wf = true)
  | .networkTrace slices =>
    vb = true ∧ mt.any (·.isNetworkTrace) = true ∧
      ∃ args : List Argument, args.length = argc ∧ slices = args.filterMap rawOf
        ∧ (args.map argCost).sum ≤ pb.length
  | .controlMsg t _ => vb = false ∧ mt.any (·.isControl) = true ∧ t.canonicalValue = true
  | .nonVerbose _ _ => vb = false ∧ mt.any (·.isControl) = false

theorem dltPayload_sat (e : Endian) (pb : Bytes) (vb : Bool) (pl argc : Nat)
    (mt : Option MessageType) :
    (dltPayload e pb vb pl argc mt).Sat fun p _ => PayloadImage pb vb argc mt p := by
  cases vb with
  | true =>
    rw [dltPayload_verbose]
    have hs := count_sat (dltArgument_sat e) argc pb
    cases hc : count (dltArgument e) argc pb with
    | ok args rest =>
      rw [hc] at hs
      obtain ⟨p1, k, ck, hk, hv, hw⟩ := hs
      have hkl := ck.length
      simp only []
      split
      · exact ⟨rfl, ‹_›, args, p1, rfl, Nat.le_trans hk (hkl ▸ Nat.le_add_left _ _)⟩
      · exact ⟨rfl, Bool.eq_false_iff.2 ‹_›, p1, hv, hw⟩
    | panic => rw [hc] at hs; exact hs.elim
    | _ => trivial
  | false =>
    rw [dltPayload_nonVerbose]
    split <;> split
    · trivial
    · exact (beU8Complete_sat pb).andThen fun b _ _ => (take_sat _ _).andThen fun _ _ _ =>
        .ok ⟨rfl, ‹_›, fromValue_canonical b⟩
    · trivial
    · exact ((bitsN_takes e 4).sat pb).andThen fun _ _ _ => (take_sat _ _).andThen fun _ _ _ =>
        .ok ⟨rfl, Bool.eq_false_iff.2 ‹_›⟩

end ParserImage

end Dlt
