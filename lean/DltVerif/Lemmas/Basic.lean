/-
  The round-trip notion `Decodes p b v` (the parser `p` reads `v` off the bytes `b`, whatever
  follows) with its closure lemmas; round trips of the nom primitives and of the byte
  vocabulary in that form, and inversion ("what an `ok` result tells") lemmas.
-/
import DltVerif.Lemmas.Utf8
import DltVerif.Lemmas.Zts
import DltVerif.Spec.WF

namespace Dlt

/-- the parser `p` reads the value `v` off the bytes `b`, whatever follows.  Every
    serialise-then-parse statement has this shape; the closure lemmas below are how the statements
    for headers, arguments and messages are put together from those for the primitives. -/
@[reducible] def Decodes {α : Type} (p : Bytes → PRes α) (b : Bytes) (v : α) : Prop :=
  ∀ r, p (b ++ r) = .ok v r

def optBytes {α : Type} (enc : α → Bytes) : Option α → Bytes
  | some x => enc x
  | none => []

namespace Decodes
variable {α β : Type}

theorem bind {p : Bytes → PRes α} {f : α → Bytes → PRes β} {b c : Bytes} {v : α} {w : β}
    (hp : Decodes p b v) (hf : Decodes (f v) c w) :
    Decodes (fun i => (p i).andThen f) (b ++ c) w := by
  intro r
  show (p (b ++ c ++ r)).andThen f = _
  rw [List.append_assoc, hp, PRes.andThen_ok, hf]

theorem map {p : Bytes → PRes α} {b : Bytes} {v : α} (hp : Decodes p b v) (g : α → β) :
    Decodes (fun i => (p i).map g) b (g v) := by
  intro r
  show (p (b ++ r)).map g = _
  rw [hp, PRes.map_ok]

/-- a last step that consumes nothing -/
theorem bind_then {p : Bytes → PRes α} {f : α → Bytes → PRes β} {b : Bytes} {v : α} {w : β}
    (hp : Decodes p b v) (hf : ∀ r, f v r = .ok w r) : Decodes (fun i => (p i).andThen f) b w := by
  intro r
  show (p (b ++ r)).andThen f = _
  rw [hp, PRes.andThen_ok, hf]

theorem bind_ok {p : Bytes → PRes α} {b : Bytes} {v : α} (hp : Decodes p b v) (g : α → β) :
    Decodes (fun i => (p i).andThen fun x r => .ok (g x) r) b (g v) :=
  hp.bind_then fun _ => rfl

/-- an optional field; in use the flag the parser read earlier equals `o.isSome` -/
theorem optional {p : Bytes → PRes α} {enc : α → Bytes} {o : Option α}
    (h : ∀ x, o = some x → Decodes p (enc x) x) :
    Decodes (fun i => if o.isSome = true then (p i).map some else .ok none i) (optBytes enc o) o := by
  cases o with
  | none => exact fun _ => rfl
  | some x => exact (h x rfl).map some

theorem count {p : Bytes → PRes α} (enc : α → Bytes) (vs : List α)
    (h : ∀ v ∈ vs, Decodes p (enc v) v) :
    Decodes (Dlt.count p vs.length) (vs.map enc).flatten vs := by
  induction vs with
  | nil => exact fun _ => rfl
  | cons v vs ih =>
    exact (h v List.mem_cons_self).bind ((ih fun x hx => h x (List.mem_cons_of_mem _ hx)).map _)

end Decodes

theorem length_optBytes {α : Type} (enc : α → Bytes) (o : Option α) (k : Nat)
    (h : ∀ x, o = some x → (enc x).length = k) :
    (optBytes enc o).length = if o.isSome = true then k else 0 := by
  cases o with
  | none => rfl
  | some x => exact h x rfl

@[simp] theorem length_bytesLE (k n : Nat) : (bytesLE k n).length = k := by
  induction k generalizing n with
  | zero => simp [bytesLE]
  | succ k ih => simp [bytesLE, ih]

theorem fromLE_bytesLE (k n : Nat) (h : n < 256 ^ k) : fromLE (bytesLE k n) = n := by
  induction k generalizing n with
  | zero =>
    have : n = 0 := by simpa using h
    subst this
    simp [bytesLE, fromLE]
  | succ k ih =>
    simp only [bytesLE, fromLE, BitVec.toNat_ofNat]
    have h1 : n / 256 < 256 ^ k := by
      rw [Nat.div_lt_iff_lt_mul (by decide), ← Nat.pow_succ]; exact h
    rw [ih _ h1]
    exact Nat.mod_add_div n 256

theorem fromLE_lt (bs : Bytes) : fromLE bs < 256 ^ bs.length := by
  induction bs with
  | nil => simp [fromLE]
  | cons b t ih =>
    simp only [fromLE, List.length_cons]
    have hb := b.isLt
    have hp := Nat.pow_succ 256 t.length
    rw [hp]
    generalize 256 ^ t.length = P at *
    omega

theorem bytesLE_fromLE (bs : Bytes) : bytesLE bs.length (fromLE bs) = bs := by
  induction bs with
  | nil => rfl
  | cons b t ih =>
    simp only [List.length_cons, bytesLE, fromLE]
    have hb := b.isLt
    have h1 : (b.toNat + 256 * fromLE t) / 256 = fromLE t := by omega
    have h2 : BitVec.ofNat 8 (b.toNat + 256 * fromLE t) = b := by
      apply BitVec.eq_of_toNat_eq
      rw [BitVec.toNat_ofNat, Nat.add_mul_mod_self_left, Nat.mod_eq_of_lt hb]
    rw [h1, h2, ih]

@[simp] theorem Endian.length_bytes (e : Endian) (k n : Nat) : (e.bytes k n).length = k := by
  cases e <;> simp [Endian.bytes, bytesBE]

theorem Endian.value_bytes (e : Endian) (k n : Nat) (h : n < 256 ^ k) :
    e.value (e.bytes k n) = n := by
  cases e <;> simp [Endian.bytes, Endian.value, bytesBE, fromBE, fromLE_bytesLE k n h]

theorem Endian.value_lt (e : Endian) (bs : Bytes) : e.value bs < 256 ^ bs.length := by
  cases e
  · exact fromLE_lt bs
  · have := fromLE_lt bs.reverse
    simpa [Endian.value, fromBE] using this

theorem Endian.bytes_value (e : Endian) (bs : Bytes) : e.bytes bs.length (e.value bs) = bs := by
  cases e
  · exact bytesLE_fromLE bs
  · have := bytesLE_fromLE bs.reverse
    simp only [Endian.bytes, Endian.value, bytesBE, fromBE]
    rw [List.length_reverse] at this
    rw [this, List.reverse_reverse]

theorem uintN_bytes (e : Endian) (k n : Nat) (h : n < 256 ^ k) :
    Decodes (uintN e k) (e.bytes k n) n := by
  intro r
  have hl : (e.bytes k n).length = k := Endian.length_bytes e k n
  have h1 : ¬ (e.bytes k n ++ r).length < k := by
    rw [List.length_append, hl]; exact Nat.not_lt.2 (Nat.le_add_right _ _)
  simp only [uintN, h1, if_false]
  rw [List.take_left' hl, List.drop_left' hl, Endian.value_bytes e k n h]

theorem bitsN_bytes (e : Endian) (k : Nat) (v : BitVec (8 * k)) :
    Decodes (bitsN e k) (e.bytes k v.toNat) v := by
  have hv : v.toNat < 256 ^ k := by
    have := v.isLt
    rwa [Nat.pow_mul] at this
  have := (uintN_bytes e k v.toNat hv).map (BitVec.ofNat (8 * k))
  rwa [BitVec.ofNat_toNat, BitVec.setWidth_eq] at this

theorem beU8_cons (b : BitVec 8) : Decodes beU8 [b] b := fun _ => rfl

/-- the 8-bit reader `be_u8` is the 1-byte number reader, in either byte order -/
theorem beU8_eq_uintN (e : Endian) (i : Bytes) : beU8 i = (uintN e 1 i).map (BitVec.ofNat 8) := by
  cases i with
  | nil => rfl
  | cons b t =>
    have hv : e.value [b] = b.toNat := by cases e <;> simp [Endian.value, fromBE, fromLE]
    simp [beU8, uintN, hv]

theorem bitsN_of_le (e : Endian) (k : Nat) (i : Bytes) (h : k ≤ i.length) :
    bitsN e k i = .ok (BitVec.ofNat (8 * k) (e.value (i.take k))) (i.drop k) := by
  simp only [bitsN, uintN, Nat.not_lt.mpr h, if_false, PRes.map_ok]

theorem take_of_le {n : Nat} {i : Bytes} (h : n ≤ i.length) :
    take n i = .ok (i.take n) (i.drop n) := by
  unfold take
  rw [if_neg (Nat.not_lt.2 h)]

theorem take_of_lt {n : Nat} {i : Bytes} (h : i.length < n) :
    take n i = .incomplete (some (n - i.length)) := by
  unfold take needed
  rw [if_pos h, if_neg (Nat.sub_ne_zero_of_lt h)]

theorem take_decodes (n : Nat) (b : Bytes) (h : b.length = n) : Decodes (take n) b b := by
  subst h
  intro r
  rw [take_of_le (by rw [List.length_append]; exact Nat.le_add_right _ _), List.take_left' rfl,
    List.drop_left' rfl]

theorem take_ok_inv {n : Nat} {i v r : Bytes} (h : take n i = .ok v r) :
    n ≤ i.length ∧ v = i.take n ∧ r = i.drop n := by
  unfold take at h
  split at h
  · cases h
  · injection h with h1 h2
    exact ⟨Nat.le_of_not_lt ‹_›, h1.symm, h2.symm⟩

theorem tag_append (t : Bytes) : Decodes (tag t) t t := by
  intro r
  have h1 : ¬ (t ++ r).length < t.length := by
    rw [List.length_append]; exact Nat.not_lt.2 (Nat.le_add_right _ _)
  have h2 : (t ++ r).take t.length = t := List.take_left' rfl
  have h3 : t.take (t ++ r).length = t := by
    apply List.take_of_length_le
    rw [List.length_append]; exact Nat.le_add_right _ _
  simp only [tag, h1, h2, h3, bne_self_eq_false, Bool.false_eq_true, if_false]
  rw [List.drop_left' rfl]

theorem tag_ok_inv {t i v r : Bytes} (h : tag t i = .ok v r) : i = t ++ r ∧ v = t := by
  unfold tag at h
  split at h
  · cases h
  · rename_i hne
    split at h
    · cases h
    · rename_i hlt
      injection h with h1 h2
      have hle : t.length ≤ i.length := by omega
      have heq : i.take t.length = t := by
        have : i.take t.length = t.take i.length := by simpa using hne
        rw [this, List.take_of_length_le hle]
      refine ⟨?_, by rw [← h1, heq]⟩
      rw [← h2]
      conv => lhs; rw [← List.take_append_drop t.length i]
      rw [heq]

theorem length_putZeroTerminatedString (s : Bytes) (n : Nat) (h : s.length ≤ n) :
    (putZeroTerminatedString s n).length = n := by
  rw [putZeroTerminatedString, List.length_append, List.length_replicate, Nat.add_sub_of_le h]

/-- NUL padding behind a NUL-free string: the scan stops at the first pad byte, or at the end -/
theorem takeWhile_notNul_append_replicate (s : Bytes) (m : Nat) (h : noNul s = true) :
    (s ++ List.replicate m 0#8).takeWhile (fun b => !isNul b) = s := by
  rw [List.takeWhile_append_of_pos (p := (!isNul ·)) (List.all_eq_true.1 h),
    List.takeWhile_replicate]
  simp [isNul]

theorem zts_padded (n : Nat) (s : Bytes) (h1 : noNul s = true) (h2 : Utf8.valid s = true)
    (h3 : s.length ≤ n) : Decodes (zts n) (putZeroTerminatedString s n) s := by
  intro r
  have hl := length_putZeroTerminatedString s n h3
  rw [zts_ok n _ (by rw [List.length_append, hl]; exact Nat.le_add_right _ _), List.take_left' hl,
    List.drop_left' hl]
  unfold putZeroTerminatedString
  rw [takeWhile_notNul_append_replicate s _ h1, Utf8.validPrefix_of_valid s h2]

theorem zts_terminated (s : Bytes) (h1 : noNul s = true) (h2 : Utf8.valid s = true) :
    Decodes (zts (s.length + 1)) (s ++ [0#8]) s := by
  have := zts_padded (s.length + 1) s h1 h2 (Nat.le_succ _)
  rw [putZeroTerminatedString, Nat.add_sub_cancel_left] at this
  exact this

theorem zts_ok_value {n : Nat} {i v r : Bytes} (h : zts n i = .ok v r) :
    noNul v = true ∧ Utf8.valid v = true ∧ v.length ≤ n := by
  by_cases hn : n ≤ i.length
  · rw [zts_ok n i hn] at h
    injection h with hv _
    subst hv
    refine ⟨?_, Utf8.valid_validPrefix _, ?_⟩
    · simp only [noNul, List.all_eq_true, Utf8.validPrefix]
      intro b hb
      exact List.all_eq_true.1 (List.all_takeWhile (p := (!isNul ·))) _ (List.mem_of_mem_take hb)
    · have h1 := Utf8.validUpTo_le ((i.take n).takeWhile (fun b => !isNul b))
      have h2 := (List.takeWhile_sublist (fun b => !isNul b) (l := i.take n)).length_le
      simp only [Utf8.validPrefix, List.length_take] at h2 ⊢
      omega
  · obtain ⟨_, hh, _⟩ := zts_short_some n i (Nat.lt_of_not_le hn)
    rw [hh] at h
    cases h

/-- a 4-byte id field is what `zts 4` can return -/
theorem idOk_iff (s : Bytes) :
    idOk s = true ↔ noNul s = true ∧ Utf8.valid s = true ∧ s.length ≤ 4 := by
  simp only [idOk, Bool.and_eq_true, decide_eq_true_eq]
  exact ⟨fun ⟨⟨a, b⟩, c⟩ => ⟨b, c, a⟩, fun ⟨b, c, a⟩ => ⟨⟨a, b⟩, c⟩⟩

theorem zts_id (s : Bytes) (h : idOk s = true) : Decodes (zts 4) (putZeroTerminatedString s 4) s :=
  let ⟨h1, h2, h3⟩ := (idOk_iff s).1 h
  zts_padded 4 s h1 h2 h3

/-- below 2^16 the `u16` additions of `overall_length` neither overflow nor wrap -/
theorem StandardHeader.overallLength_of_lt {h : StandardHeader} {D : Nat}
    (hD : h.overallLengthNat = D) (hlt : D < 65536) :
    h.overallLengthPanics = false ∧ h.overallLength = D := by
  simp only [StandardHeader.overallLengthPanics, StandardHeader.overallLength, asU16, hD,
    decide_eq_false_iff_not]
  exact ⟨Nat.not_lt.2 (Nat.le_of_lt_succ hlt), Nat.mod_eq_of_lt hlt⟩

end Dlt
